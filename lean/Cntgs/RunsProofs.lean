/-
The run tables (`calculate_consecutive_indices`) cover every parameter exactly the way the byte-range
operations need: non-matching parameters are MANUAL, matching ones lie in a run that consists of
matching parameters only.
-/
import Cntgs.Layout
namespace Cntgs

def predAt (pred : Param → Bool) (all : List Param) (m : Nat) : Bool :=
  match all[m]? with
  | some q => pred q
  | none => false

theorem predAt_getElem (pred : Param → Bool) (ps : List Param) (m : Nat) (h : m < ps.length) : predAt pred ps m = pred ps[m] := by
  simp [predAt, List.getElem?_eq_getElem h]

/-- what every run table satisfies, and all the folds over a table use: a parameter that does not match is MANUAL, an entry
    `upto last` at `k` is a run of matching parameters, and every parameter is covered by one entry (`covered_by`) -/
structure RunsOK (pred : Param → Bool) (ps : List Param) (T : Nat → RunEntry) : Prop where
  manual_of_not : ∀ j, j < ps.length → predAt pred ps j = false → T j = .manual
  run_wf : ∀ k last, T k = .upto last → k ≤ last ∧ last < ps.length ∧ ∀ m, k ≤ m → m ≤ last → predAt pred ps m = true
  covered : ∀ j, j < ps.length → predAt pred ps j = true → ∃ k last, T k = .upto last ∧ k ≤ j ∧ j ≤ last
  manual_only_not : ∀ j, T j = .manual → j < ps.length ∧ predAt pred ps j = false
  disjoint : ∀ k1 l1 k2 l2, T k1 = .upto l1 → T k2 = .upto l2 → k1 < k2 → l1 < k2

/-! `RunsOK` is built block by block: behind an OK table for `ps`, one entry describes a block `qs` of parameters that all
match (UPTO, any length) or a single one that does not (MANUAL). `runsGo` does this from left to right; its only state
besides the closed table is the run that is still open. -/

theorem RunsOK.nil (pred : Param → Bool) : RunsOK pred [] (fun _ => .skip) :=
  ⟨fun _ h => by simp at h, fun _ _ h => by simp at h, fun _ h => by simp at h, fun _ h => by simp at h,
   fun _ _ _ _ h => by simp at h⟩

theorem RunsOK.append_block {pred ps T} (h : RunsOK pred ps T) (qs : List Param) (m : Nat) (hm : qs.length = m + 1) (b : Bool)
    (hq : ∀ q ∈ qs, pred q = b) (hm0 : b = false → m = 0) :
    RunsOK pred (ps ++ qs) (fun k => if k = ps.length then (if b then .upto (ps.length + m) else .manual) else T k) := by
  have hlen : (ps ++ qs).length = ps.length + m + 1 := by rw [List.length_append, hm]; rfl
  have hlt : ps.length < (ps ++ qs).length := hlen ▸ Nat.lt_succ_of_le (Nat.le_add_right _ m)
  have hsplit : ∀ j, j < (ps ++ qs).length → j < ps.length ∨ ps.length ≤ j ∧ j ≤ ps.length + m :=
    fun j hj => (Nat.lt_or_ge j ps.length).imp_right fun hge => ⟨hge, Nat.le_of_lt_succ (Nat.lt_of_lt_of_eq hj hlen)⟩
  have hold : ∀ j, j < ps.length → predAt pred (ps ++ qs) j = predAt pred ps j :=
    fun j hj => by unfold predAt; rw [List.getElem?_append_left hj]
  have hnew : ∀ j, ps.length ≤ j → j ≤ ps.length + m → predAt pred (ps ++ qs) j = b := by
    intro j h1 h2
    have hj : j - ps.length < qs.length := by omega
    unfold predAt
    rw [List.getElem?_append_right h1, List.getElem?_eq_getElem hj]
    exact hq _ (List.getElem_mem hj)
  refine ⟨?manual_of_not, ?run_wf, ?covered, ?manual_only_not, ?disjoint⟩
  case manual_of_not =>
    intro j hj hpj
    rcases hsplit j hj with hjn | ⟨h1, h2⟩
    · rw [if_neg (Nat.ne_of_lt hjn)]; exact h.manual_of_not j hjn (hold j hjn ▸ hpj)
    · -- `j` lies in the block, so the block does not match: it is the single parameter at `ps.length`, whose entry is MANUAL
      obtain rfl : b = false := (hnew j h1 h2).symm.trans hpj
      have hjn : j = ps.length := Nat.le_antisymm (by rw [hm0 rfl] at h2; exact h2) h1
      rw [if_pos hjn]; rfl
  case run_wf =>
    intro k last hk
    by_cases hkn : k = ps.length
    · -- the new entry is a run only if the block matches, and then it is the block
      subst hkn
      rw [if_pos rfl] at hk
      cases b
      · cases hk
      · cases hk; exact ⟨Nat.le_add_right _ _, hlen ▸ Nat.lt_succ_self _, hnew⟩
    · rw [if_neg hkn] at hk
      obtain ⟨h1, h2, h3⟩ := h.run_wf k last hk
      exact ⟨h1, Nat.lt_trans h2 hlt, fun j hj1 hj2 => by rw [hold j (Nat.lt_of_le_of_lt hj2 h2)]; exact h3 j hj1 hj2⟩
  case covered =>
    intro j hj hpj
    rcases hsplit j hj with hjn | ⟨h1, h2⟩
    · obtain ⟨k, last, hk, hkj, hjl⟩ := h.covered j hjn (hold j hjn ▸ hpj)
      exact ⟨k, last, by rw [if_neg (Nat.ne_of_lt (Nat.lt_of_le_of_lt hkj hjn))]; exact hk, hkj, hjl⟩
    · -- `j` lies in the block, so the block matches and its run covers `j`
      obtain rfl : b = true := (hnew j h1 h2).symm.trans hpj
      exact ⟨ps.length, ps.length + m, if_pos rfl, h1, h2⟩
  case manual_only_not =>
    intro j hj
    by_cases hjn : j = ps.length
    · subst hjn
      rw [if_pos rfl] at hj
      cases b
      · exact ⟨hlt, hnew _ (Nat.le_refl _) (Nat.le_add_right _ _)⟩
      · cases hj
    · rw [if_neg hjn] at hj
      obtain ⟨h1, h2⟩ := h.manual_only_not j hj
      exact ⟨Nat.lt_trans h1 hlt, by rw [hold j h1]; exact h2⟩
  case disjoint =>
    -- entries of `T` lie below `ps.length`
    intro k1 l1 k2 l2 h1 h2 hk
    by_cases hk2 : k2 = ps.length
    · by_cases hk1 : k1 = ps.length
      · exact absurd (hk1.trans hk2.symm) (Nat.ne_of_lt hk)
      · rw [if_neg hk1] at h1; exact hk2 ▸ (h.run_wf k1 l1 h1).2.1
    · rw [if_neg hk2] at h2
      by_cases hk1 : k1 = ps.length
      · obtain ⟨h3, h4, _⟩ := h.run_wf k2 l2 h2
        exact absurd (Nat.lt_of_le_of_lt h3 h4) (Nat.lt_asymm (hk1 ▸ hk))
      · rw [if_neg hk1] at h1; exact h.disjoint k1 l1 k2 l2 h1 h2 hk

/-- the table while a run of `m` matching parameters is open behind the closed prefix of length `s` -/
def openTbl (T : Nat → RunEntry) (s : Nat) : Nat → Nat → RunEntry
  | 0 => T
  | m + 1 => fun k => if k = s then .upto (s + m) else T k

theorem openTbl_succ (T : Nat → RunEntry) (s m : Nat) :
    openTbl T s (m + 1) = fun k => if k = s then .upto (s + m) else openTbl T s m k := by
  cases m
  · rfl
  · funext k; simp only [openTbl]; split <;> rfl

theorem RunsOK.close {pred ps T} (h : RunsOK pred ps T) (run : List Param) (hq : ∀ q ∈ run, pred q = true) :
    RunsOK pred (ps ++ run) (openTbl T ps.length run.length) := by
  cases hr : run.length with
  | zero => rw [List.length_eq_zero_iff.mp hr, List.append_nil]; exact h
  | succ m => exact h.append_block run m hr true hq nofun

theorem runsGo_ok (pred : Param → Bool) (brk : Bool) : ∀ (rest pre run : List Param) (T : Nat → RunEntry),
    RunsOK pred pre T → (∀ q ∈ run, pred q = true) →
    RunsOK pred (pre ++ run ++ rest)
      (runsGo pred brk rest (pre.length + run.length) pre.length (openTbl T pre.length run.length)) := by
  intro rest
  induction rest with
  | nil => intro pre run T h hq; rw [List.append_nil]; exact h.close run hq
  | cons p rest ih =>
    intro pre run T h hq
    simp only [runsGo]
    by_cases hp : pred p = true
    · rw [if_pos hp]
      by_cases hb : (brk && decide (p.al > 1)) = true
      · -- BreakAtPadding: the open run is closed, `p` opens the next one
        have := ih (pre ++ run) [p] _ (h.close run hq) (List.forall_mem_singleton.mpr hp)
        rw [List.append_assoc, List.singleton_append, List.length_append] at this
        rw [if_pos hb]
        exact this
      · -- `p` extends the open run
        have := ih pre (run ++ [p]) T h (List.forall_mem_append.mpr ⟨hq, List.forall_mem_singleton.mpr hp⟩)
        rw [List.length_append, List.length_singleton, openTbl_succ, List.append_assoc, List.append_assoc, List.singleton_append,
          ← List.append_assoc] at this
        rw [if_neg hb]
        exact this
    · rw [if_neg hp]
      have := ih (pre ++ run ++ [p]) [] _
        ((h.close run hq).append_block [p] 0 rfl false (by simpa using hp) (fun _ => rfl)) (by simp)
      rw [List.append_nil, List.append_assoc, List.singleton_append, List.length_append, List.length_append] at this
      exact this

theorem runs_ok (pred : Param → Bool) (brk : Bool) (ps : List Param) :
    RunsOK pred ps (runsGo pred brk ps 0 0 (fun _ => .skip)) := by
  simpa [openTbl] using runsGo_ok pred brk ps [] [] _ (RunsOK.nil pred) (by simp)

theorem runs_getD (pred : Param → Bool) (brk : Bool) (ps : List Param) (k : Nat) (hk : k < ps.length) :
    (runs pred brk ps).getD k .skip = runsGo pred brk ps 0 0 (fun _ => .skip) k := by
  unfold runs
  simp [List.getD_eq_getElem?_getD, List.getElem?_map, List.getElem?_range hk]

/-- the fields that step `k` of a fold over a run table deals with, given the entry at `k` -/
def RunEntry.covers : RunEntry → Nat → Nat → Prop
  | .skip, _, _ => False
  | .manual, k, j => j = k
  | .upto last, k, j => k ≤ j ∧ j ≤ last

theorem RunsOK.covered_by {pred ps T} (h : RunsOK pred ps T) {j : Nat} (hj : j < ps.length) :
    ∃ k, k < ps.length ∧ (T k).covers k j := by
  cases hp : predAt pred ps j
  · exact ⟨j, hj, by rw [h.manual_of_not j hj hp]; rfl⟩
  · obtain ⟨k, last, h1, h2, h3⟩ := h.covered j hj hp
    exact ⟨k, Nat.lt_of_le_of_lt h2 hj, by rw [h1]; exact ⟨h2, h3⟩⟩

theorem RunsOK.covers_unique {pred ps T} (h : RunsOK pred ps T) {k k' j : Nat} (h1 : (T k).covers k j) (h2 : (T k').covers k' j) :
    k = k' := by
  -- a MANUAL field does not match the predicate, the fields of a run all do; two runs do not overlap
  cases e1 : T k <;> cases e2 : T k' <;> rw [e1] at h1 <;> rw [e2] at h2 <;> simp only [RunEntry.covers] at h1 h2
  · exact h1.symm.trans h2
  · rename_i l
    subst h1
    cases (h.manual_only_not j e1).2.symm.trans ((h.run_wf k' l e2).2.2 j h2.1 h2.2)
  · rename_i l
    subst h2
    cases (h.manual_only_not j e2).2.symm.trans ((h.run_wf k l e1).2.2 j h1.1 h1.2)
  · rename_i l l'
    rcases Nat.lt_trichotomy k k' with hlt | heq | hlt
    · exact absurd (Nat.le_trans h2.1 h1.2) (Nat.not_le.mpr (h.disjoint k l k' l' e1 e2 hlt))
    · exact heq
    · exact absurd (Nat.le_trans h1.1 h2.2) (Nat.not_le.mpr (h.disjoint k' l' k l e2 e1 hlt))

end Cntgs
