/-
C13: `reference == reference` is true exactly for equal logical content, for EVERY parameter list. Comparing the bytes of a
run of consecutive memcmp-able fields is the same as comparing the field values: the byte encoding is injective on values
that fit the type, the fields of a run have the same sizes on both sides, and the run table covers every parameter (`runs_ok`; that it
does so exactly once is what assignment and swap need, C11).
-/
import Cntgs.Compare
import Cntgs.RunsProofs
namespace Cntgs

theorem equal3_iff : ∀ (l m : List Nat), l.length = m.length → (equal3 l m = some true ↔ l = m) := by
  intro l
  induction l with
  | nil => intro m h; cases m with | nil => exact ⟨fun _ => rfl, fun _ => rfl⟩ | cons _ _ => cases h
  | cons a as ih =>
    intro m h
    cases m with
    | nil => cases h
    | cons b bs =>
      rw [equal3, List.cons.injEq]
      by_cases hab : a = b
      · rw [if_pos hab, ih bs (Nat.succ.inj h)]; exact ⟨fun h => ⟨hab, h⟩, And.right⟩
      · rw [if_neg hab]; exact ⟨(nomatch ·), fun h => absurd h.1 hab⟩

theorem eqFold_true (ps : List Param) (tbl : List RunEntry) (a b : Elem) (ks : List Nat) :
    eqFold ps tbl a b ks = some true ↔ ∀ k ∈ ks, eqOne ps tbl a b k = some true := by
  induction ks with
  | nil => exact ⟨fun _ _ h => (nomatch h), fun _ => rfl⟩
  | cons k ks ih =>
    rw [eqFold, List.forall_mem_cons]
    cases eqOne ps tbl a b k with
    | none => exact ⟨(nomatch ·), (nomatch ·.1)⟩
    | some v =>
      cases v
      · exact ⟨(nomatch ·), (nomatch ·.1)⟩
      · exact ih.trans ⟨fun h => ⟨rfl, h⟩, And.right⟩

theorem fixedSizesEq_of_counts : ∀ (ps : List Param) (a b : Elem), elemCounts a = elemCounts b → fixedSizesEq ps a b = true := by
  intro ps
  induction ps with
  | nil => intro a b _; cases a <;> cases b <;> rfl
  | cons p ps ih =>
    intro a b hc
    cases a with
    | nil => rfl
    | cons va a =>
      cases b with
      | nil => rfl
      | cons vb b =>
        obtain ⟨h1, h2⟩ := List.cons.inj hc
        rw [fixedSizesEq, ih a b h2, h1, beq_self_eq_true, ite_self]
        rfl

theorem elemEq_fixed_size_differs (ps : List Param) (a b : Elem) (h : fixedSizesEq ps a b = false) : elemEq ps a b = some false := by
  rw [elemEq, h]; rfl

theorem fixedSizesEq_symm : ∀ (ps : List Param) (a b : Elem), fixedSizesEq ps a b = fixedSizesEq ps b a := by
  intro ps
  induction ps with
  | nil => intro a b; cases a <;> cases b <;> rfl
  | cons p ps ih =>
    intro a b
    cases a with
    | nil => cases b <;> rfl
    | cons va a =>
      cases b with
      | nil => rfl
      | cons vb b => rw [fixedSizesEq, fixedSizesEq, ih a b, Bool.beq_comm]

theorem encode_length (vb v : Nat) : (encode vb v).length = vb := by
  induction vb generalizing v with
  | zero => rfl
  | succ n ih => simp [encode, ih]

/-- the object representation determines the value (for values that fit into `vb` bytes) -/
theorem encode_inj (vb : Nat) : ∀ (v w : Nat), v < 256 ^ vb → w < 256 ^ vb → encode vb v = encode vb w → v = w := by
  induction vb with
  | zero => intro v w hv hw _; rw [Nat.pow_zero, Nat.lt_one_iff] at hv hw; rw [hv, hw]
  | succ n ih =>
    intro v w hv hw h
    simp only [encode, List.cons.injEq] at h
    -- a value is its lowest byte and the rest
    have hdiv : ∀ x, x < 256 ^ (n + 1) → x / 256 < 256 ^ n :=
      fun x hx => Nat.div_lt_of_lt_mul (by rw [← Nat.pow_succ']; exact hx)
    rw [← Nat.div_add_mod v 256, ← Nat.div_add_mod w 256, h.1, ih _ _ (hdiv v hv) (hdiv w hw) h.2]

theorem bytesOf_length (p : Param) (vals : List Nat) : (bytesOf p vals).length = p.vb * vals.length := by
  rw [bytesOf, List.length_flatMap, List.map_congr_left (fun v _ => encode_length p.vb v), List.map_const', List.sum_replicate_nat,
    Nat.mul_comm]

/-- a concatenation of chunks determines the chunks when their lengths are known beforehand (`key` says what is known);
    used at the three levels values → field, fields → run, elements → vector -/
theorem flatMap_inj_of_key {α κ γ : Type} (key : α → κ) (f : α → List γ) (P : α → Prop)
    (hlen : ∀ x y, key x = key y → (f x).length = (f y).length)
    (hinj : ∀ x y, P x → P y → key x = key y → f x = f y → x = y) :
    ∀ l₁ l₂ : List α, (∀ x ∈ l₁, P x) → (∀ y ∈ l₂, P y) → l₁.map key = l₂.map key →
      l₁.flatMap f = l₂.flatMap f → l₁ = l₂ := by
  intro l₁
  induction l₁ with
  | nil => intro l₂ _ _ hk _; exact (List.map_eq_nil_iff.mp hk.symm).symm
  | cons x xs ih =>
    intro l₂ h₁ h₂ hk h
    cases l₂ with
    | nil => cases hk
    | cons y ys =>
      simp only [List.map_cons, List.cons.injEq] at hk
      simp only [List.forall_mem_cons] at h₁ h₂
      obtain ⟨e1, e2⟩ := List.append_inj (by simpa using h) (hlen x y hk.1)
      rw [hinj x y h₁.1 h₂.1 hk.1 e1, ih ys h₁.2 h₂.2 hk.2 e2]

theorem bytesOf_inj (p : Param) (va vb : List Nat) (hl : va.length = vb.length)
    (hra : ∀ v ∈ va, v < 256 ^ p.vb) (hrb : ∀ v ∈ vb, v < 256 ^ p.vb) (h : bytesOf p va = bytesOf p vb) : va = vb :=
  flatMap_inj_of_key (fun _ => ()) (encode p.vb) (· < 256 ^ p.vb)
    (fun _ _ _ => by rw [encode_length, encode_length]) (fun v w hv hw _ => encode_inj p.vb v w hv hw)
    va vb hra hrb (by simp [List.map_const', hl]) h

/-- values fit their type: what the C++ type system guarantees (the comparison needs it of the memcmp-able parameters only,
    `FitsMemcmp`) -/
def InRange (ps : List Param) (e : Elem) : Prop :=
  ∀ k (hk : k < ps.length) (hk' : k < e.length), ∀ v ∈ e[k], v < 256 ^ (ps[k]).vb

def FitsAt (ps : List Param) (e : Elem) (m : Nat) : Prop :=
  ∀ p vals, ps[m]? = some p → e[m]? = some vals → ∀ v ∈ vals, v < 256 ^ p.vb

theorem InRange.fitsAt {ps : List Param} {e : Elem} (h : InRange ps e) (m : Nat) : FitsAt ps e m := by
  intro p vals hp hv
  obtain ⟨h1, rfl⟩ := List.getElem?_eq_some_iff.mp hp
  obtain ⟨h2, rfl⟩ := List.getElem?_eq_some_iff.mp hv
  exact h m h1 h2

/-- the values of the fields that `==` compares through their bytes fit their types -/
def FitsMemcmp (ps : List Param) (e : Elem) : Prop := ∀ m, predAt (·.ty.eqMemcmp) ps m = true → FitsAt ps e m

theorem InRange.fitsMemcmp {ps : List Param} {e : Elem} (h : InRange ps e) : FitsMemcmp ps e := fun m _ => h.fitsAt m

theorem fieldsFrom_getElem? (ps : List Param) (e : Elem) (k last i : Nat) :
    (fieldsFrom ps e k last)[i]? = if k + i ≤ last then (ps.zip e)[k + i]? else none := by
  rw [fieldsFrom, List.getElem?_take, List.getElem?_drop]
  exact ite_congr (propext (Nat.lt_sub_iff_add_lt'.trans Nat.lt_succ_iff)) (fun _ => rfl) (fun _ => rfl)

theorem mem_fieldsFrom {ps : List Param} {e : Elem} {k last : Nat} {pv : Param × List Nat} (h : pv ∈ fieldsFrom ps e k last) :
    ∃ m, k ≤ m ∧ m ≤ last ∧ ps[m]? = some pv.1 ∧ e[m]? = some pv.2 := by
  obtain ⟨i, hi⟩ := List.mem_iff_getElem?.mp h
  rw [fieldsFrom_getElem?] at hi
  split at hi
  · exact ⟨k + i, Nat.le_add_right k i, ‹_›, List.getElem?_zip_eq_some.mp hi⟩
  · cases hi

theorem fieldsFrom_eq_iff (ps : List Param) (a b : Elem) (k last : Nat) (hlast : last < ps.length) :
    fieldsFrom ps a k last = fieldsFrom ps b k last ↔ ∀ m, k ≤ m → m ≤ last → a[m]? = b[m]? := by
  constructor
  · intro h m hkm hml
    obtain ⟨i, rfl⟩ := Nat.exists_eq_add_of_le hkm
    have := congrArg (·[i]?) h
    -- below `ps.length`, zipping with `ps` loses nothing
    simp only [fieldsFrom_getElem?, if_pos hml, List.zip, List.getElem?_zipWith', List.getElem?_eq_getElem (Nat.lt_of_le_of_lt hml hlast),
      Option.map_some, Option.bind_some] at this
    exact Option.map_injective (fun _ _ h => (Prod.mk.inj h).2) this
  · intro h
    apply List.ext_getElem?
    intro i
    rw [fieldsFrom_getElem?, fieldsFrom_getElem?]
    split
    · rw [List.zip, List.getElem?_zipWith', List.getElem?_zipWith', h (k + i) (Nat.le_add_right k i) ‹_›]
    · rfl

/-- parameters and field sizes of a run: what both sides of a comparison have in common -/
theorem fieldsFrom_shape (ps : List Param) (e : Elem) (k last : Nat) :
    (fieldsFrom ps e k last).map (fun pv => (pv.1, pv.2.length)) = ((ps.zip (elemCounts e)).drop k).take (last + 1 - k) := by
  simp only [fieldsFrom, elemCounts, List.map_take, List.map_drop, List.zip_map_right]
  rfl

theorem runBytes_length_eq (ps : List Param) (a b : Elem) (hc : elemCounts a = elemCounts b) (k last : Nat) :
    (runBytes ps a k last).length = (runBytes ps b k last).length := by
  have h : ∀ e, (runBytes ps e k last).length =
      (((fieldsFrom ps e k last).map (fun pv => (pv.1, pv.2.length))).map (fun pc : Param × Nat => pc.1.vb * pc.2)).sum := by
    intro e; simp [runBytes, List.length_flatMap, bytesOf_length, Function.comp_def]
  rw [h, h, fieldsFrom_shape, fieldsFrom_shape, hc]

theorem runBytes_eq_iff_of (ps : List Param) (a b : Elem) (k last : Nat) (hc : elemCounts a = elemCounts b) (hlast : last < ps.length)
    (hra : ∀ m, k ≤ m → m ≤ last → FitsAt ps a m) (hrb : ∀ m, k ≤ m → m ≤ last → FitsAt ps b m) :
    runBytes ps a k last = runBytes ps b k last ↔ ∀ m, k ≤ m → m ≤ last → a[m]? = b[m]? := by
  have hr : ∀ e, (∀ m, k ≤ m → m ≤ last → FitsAt ps e m) → ∀ pv ∈ fieldsFrom ps e k last, ∀ v ∈ pv.2, v < 256 ^ pv.1.vb := by
    intro e he pv h
    obtain ⟨m, hkm, hml, hp, hv⟩ := mem_fieldsFrom h
    exact he m hkm hml _ _ hp hv
  rw [← fieldsFrom_eq_iff ps a b k last hlast]
  refine ⟨flatMap_inj_of_key (fun pv : Param × List Nat => (pv.1, pv.2.length)) (fun pv => bytesOf pv.1 pv.2)
    (fun pv => ∀ v ∈ pv.2, v < 256 ^ pv.1.vb)
    (fun x y hk => by rw [bytesOf_length, bytesOf_length, (Prod.mk.inj hk).1, (Prod.mk.inj hk).2])
    ?_ _ _ (hr a hra) (hr b hrb) (by rw [fieldsFrom_shape, fieldsFrom_shape, hc]), fun h => by rw [runBytes, h]; rfl⟩
  rintro ⟨p, va⟩ ⟨q, vb⟩ hx hy hk hb
  obtain ⟨rfl, hl⟩ := Prod.mk.inj hk
  rw [bytesOf_inj p va vb hl hx hy hb]

theorem runBytes_eq_iff (ps : List Param) (a b : Elem) (k last : Nat) (ha : a.length = ps.length) (hb : b.length = ps.length)
    (hc : elemCounts a = elemCounts b) (hra : InRange ps a) (hrb : InRange ps b) (hk : k ≤ last) (hlast : last < ps.length) :
    runBytes ps a k last = runBytes ps b k last ↔ ∀ m (h1 : m < a.length) (h2 : m < b.length), k ≤ m → m ≤ last → a[m] = b[m] := by
  rw [runBytes_eq_iff_of ps a b k last hc hlast (fun m _ _ => hra.fitsAt m) (fun m _ _ => hrb.fitsAt m)]
  constructor
  · intro h m h1 h2 hkm hml
    exact Option.some.inj ((List.getElem?_eq_getElem h1).symm.trans ((h m hkm hml).trans (List.getElem?_eq_getElem h2)))
  · intro h m hkm hml
    have hm := Nat.lt_of_le_of_lt hml hlast
    rw [List.getElem?_eq_getElem (ha ▸ hm), List.getElem?_eq_getElem (hb ▸ hm), h m (ha ▸ hm) (hb ▸ hm) hkm hml]

theorem eqOne_true_iff (ps : List Param) (a b : Elem) (ha : a.length = ps.length) (hb : b.length = ps.length)
    (hc : elemCounts a = elemCounts b) (hra : FitsMemcmp ps a) (hrb : FitsMemcmp ps b) (k : Nat) (hk : k < ps.length) :
    eqOne ps (eqTable ps) a b k = some true ↔
      ∀ j, (runsGo (·.ty.eqMemcmp) true ps 0 0 (fun _ => .skip) k).covers k j → a[j]? = b[j]? := by
  unfold eqOne eqTable
  rw [runs_getD _ _ ps k hk]
  cases hrun : runsGo (·.ty.eqMemcmp) true ps 0 0 (fun _ => .skip) k with
  | skip => exact ⟨fun _ _ h => h.elim, fun _ => rfl⟩
  | manual =>
    have hk1 : k < a.length := ha ▸ hk
    have hk2 : k < b.length := hb ▸ hk
    have hlen : a[k].length = b[k].length := by simpa [elemCounts, hk1, hk2] using congrArg (·[k]?) hc
    have : (∀ j, RunEntry.manual.covers k j → a[j]? = b[j]?) ↔ a[k] = b[k] := by
      rw [← Option.some.injEq, ← List.getElem?_eq_getElem hk1, ← List.getElem?_eq_getElem hk2]
      exact ⟨fun h => h k rfl, fun h j hj => by cases (hj : j = k); exact h⟩
    simp only [this, List.getElem?_eq_getElem hk, List.getElem?_eq_getElem hk1, List.getElem?_eq_getElem hk2]
    split
    · simp
    · exact equal3_iff _ _ hlen
  | upto last =>
    obtain ⟨_, hlast, hpr⟩ := (runs_ok (·.ty.eqMemcmp) true ps).run_wf k last hrun
    simp only [Option.some.injEq, beq_iff_eq, RunEntry.covers, and_imp]
    exact runBytes_eq_iff_of ps a b k last hc hlast (fun m hkm hml => hra m (hpr m hkm hml)) (fun m hkm hml => hrb m (hpr m hkm hml))

theorem ext_getElem?_of_length {α : Type} {a b : List α} {n : Nat} (ha : a.length = n) (hb : b.length = n)
    (h : ∀ j, j < n → a[j]? = b[j]?) : a = b :=
  List.ext_getElem? fun j => (Nat.lt_or_ge j n).elim (h j) fun hj =>
    (List.getElem?_eq_none (ha ▸ hj)).trans (List.getElem?_eq_none (hb ▸ hj)).symm

/-- **`reference == reference` is equality of the logical content, for every parameter list**: memcmp runs and the
    element-wise comparisons together cover every field; nothing else (padding, capacity, allocator, former
    contents of the memory) is an input of the comparison. Values have to fit their types only where they are compared
    through their bytes. -/
theorem elemEq_iff_of (ps : List Param) (a b : Elem) (ha : a.length = ps.length) (hb : b.length = ps.length)
    (hc : elemCounts a = elemCounts b) (hra : FitsMemcmp ps a) (hrb : FitsMemcmp ps b) : elemEq ps a b = some true ↔ a = b := by
  unfold elemEq
  rw [if_pos (fixedSizesEq_of_counts ps a b hc), eqFold_true]
  constructor
  · intro h
    refine ext_getElem?_of_length ha hb fun j hj => ?_
    obtain ⟨k, hk, hcov⟩ := (runs_ok (·.ty.eqMemcmp) true ps).covered_by hj
    exact (eqOne_true_iff ps a b ha hb hc hra hrb k hk).mp (h k (List.mem_range.mpr hk)) j hcov
  · intro h k hk
    exact (eqOne_true_iff ps a b ha hb hc hra hrb k (List.mem_range.mp hk)).mpr (fun j _ => by rw [h])

theorem allEq_iff (ps : List Param) : ∀ a b : List Elem,
    (∀ e ∈ a, e.length = ps.length ∧ InRange ps e) → (∀ e ∈ b, e.length = ps.length ∧ InRange ps e) →
    a.map elemCounts = b.map elemCounts → (allEq ps a b = some true ↔ a = b) := by
  intro a
  induction a with
  | nil => intro b _ _ hs; cases b with | nil => simp [allEq] | cons _ _ => cases hs
  | cons x xs ih =>
    intro b hwa hwb hs
    cases b with
    | nil => cases hs
    | cons y ys =>
      simp only [List.map_cons, List.cons.injEq] at hs
      simp only [List.forall_mem_cons] at hwa hwb
      rw [List.cons.injEq, ← ih ys hwa.2 hwb.2 hs.2,
        ← elemEq_iff_of ps x y hwa.1.1 hwb.1.1 hs.1 hwa.1.2.fitsMemcmp hwb.1.2.fitsMemcmp, allEq]
      cases elemEq ps x y with
      | none => simp
      | some r => cases r <;> simp

end Cntgs
