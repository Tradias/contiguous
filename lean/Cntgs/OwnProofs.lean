/-
C07 on whole histories: the ownership discipline of the data blocks.

`WOwn w`: the ledger is well-formed, every vector owns a live block of exactly its recorded size obtained from an
allocator equal to its own, no two vectors own the same block, EVERY live data block is owned by some vector (nothing
leaks), and the ledger never recorded an error (double free, wrong size, foreign allocator).  Every operation of the
multi-vector interface preserves it.  (Offset tables are allocated through the same ledger but never returned: the known
finding KF-C07; the statements below are about the data blocks.)

Nearly everything is derived from two facts: the invariant does not see the names (`WOwn.rename`), and it survives an operation that
ends with a new owner under ONE name provided the ledger and that owner fit together (`WOwn.rebind`).  The ways the interface
changes the ledger are corollaries: nothing or offset tables added (`keep`), a fresh block for a free name (`install`), a fresh
block in exchange for the old one (`renewBlock`), the block returned (`release`); operations on two names first exchange the names
(`swapNames`).  All of them speak of the world `{ w.set k x with heap := h', threw := t }`, the form every operation ends in.
-/
import Cntgs.WorldCases
import Cntgs.VectorProofs
namespace Cntgs

structure WOwn (w : World) : Prop where
  wf : w.heap.WF
  owns : ∀ k v, w.vecs k = some v → Owns w.heap w.acfg v.S v.ptr
  excl : ∀ k1 k2 v1 v2 s, w.vecs k1 = some v1 → w.vecs k2 = some v2 → v1.blk = some s → v2.blk = some s → k1 = k2
  noleak : ∀ b ∈ w.heap.live, b.kind = .data → ∃ k v, w.vecs k = some v ∧ v.blk = some b.serial
  noerr : w.heap.errs = []

theorem WOwn.rename {w w' : World} (h : WOwn w) (π : Nat → Nat) (hπ : ∀ i, π (π i) = i)
    (hv : ∀ i, w'.vecs i = w.vecs (π i)) (hh : w'.heap = w.heap) (hc : w'.acfg = w.acfg) : WOwn w' := by
  refine ⟨hh ▸ h.wf, fun k v hk => ?_, fun k1 k2 v1 v2 s h1 h2 b1 b2 => ?_, fun b hb hk => ?_, hh ▸ h.noerr⟩
  · rw [hh, hc]; exact h.owns (π k) v (hv k ▸ hk)
  · have := h.excl (π k1) (π k2) v1 v2 s (hv k1 ▸ h1) (hv k2 ▸ h2) b1 b2
    rw [← hπ k1, this, hπ]
  · obtain ⟨i, x, hx, hbx⟩ := h.noleak b (hh ▸ hb) hk
    exact ⟨π i, x, by rw [hv, hπ]; exact hx, hbx⟩

theorem WOwn.congr {w w' : World} (h : WOwn w) (hv : ∀ i, w'.vecs i = w.vecs i) (hh : w'.heap = w.heap) (hc : w'.acfg = w.acfg) :
    WOwn w' :=
  h.rename id (fun _ => rfl) hv hh hc

/-- **the one way ownership changes**: an operation ends with `x` under the name `k` and with the ledger `h'`.  Every other
    owner still owns its block; `x` owns its block, which is the one `k` held before or a fresh one; every live data block is
    `x`'s, or was live before and not `k`'s -/
theorem WOwn.rebind {w : World} (h : WOwn w) (k : Nat) (x : Option Vec) {h' : Heap} (t : Bool) (hwf : h'.WF)
    (herr : h'.errs = w.heap.errs) (hkeep : ∀ i v, i ≠ k → w.vecs i = some v → Owns h' w.acfg v.S v.ptr)
    (hown : ∀ y, x = some y → Owns h' w.acfg y.S y.ptr)
    (hblk : ∀ s, x.bind (·.blk) = some s → (w.vecs k).bind (·.blk) = some s ∨ w.heap.next ≤ s)
    (hdata : ∀ b ∈ h'.live, b.kind = .data →
      x.bind (·.blk) = some b.serial ∨ (b ∈ w.heap.live ∧ (w.vecs k).bind (·.blk) ≠ some b.serial)) :
    WOwn { (w.set k x) with heap := h', threw := t } := by
  have at_k : ∀ {y}, (if k = k then x else w.vecs k) = some y → x = some y := fun hy => (if_pos rfl).symm.trans hy
  have off_k : ∀ {i y}, i ≠ k → (if i = k then x else w.vecs i) = some y → w.vecs i = some y := fun hi hy => (if_neg hi).symm.trans hy
  -- a block held under `k` now is held by no other name
  have hk : ∀ y i v s, x = some y → y.blk = some s → i ≠ k → w.vecs i = some v → v.blk ≠ some s := by
    intro y i v s hy hs hi hiv hvs
    rcases hblk s (hy ▸ hs) with hold | hfresh
    · obtain ⟨v0, hv0, hb0⟩ := Option.bind_eq_some_iff.mp hold
      exact hi (h.excl i k v v0 s hiv hv0 hvs hb0)
    · exact Nat.lt_irrefl _ (Nat.lt_of_lt_of_le (owns_lt h.wf (h.owns i v hiv) (p := v.ptr) hvs) hfresh)
  refine ⟨hwf, fun i y hy => ?_, fun k1 k2 v1 v2 s h1 h2 b1 b2 => ?_, fun b hb hkd => ?_, herr ▸ h.noerr⟩
  · by_cases hi : i = k
    · subst hi; exact hown y (at_k hy)
    · exact hkeep i y hi (off_k hi hy)
  · by_cases e1 : k1 = k <;> by_cases e2 : k2 = k
    · rw [e1, e2]
    · subst e1; exact absurd b2 (hk v1 k2 v2 s (at_k h1) b1 e2 (off_k e2 h2))
    · subst e2; exact absurd b1 (hk v2 k1 v1 s (at_k h2) b2 e1 (off_k e1 h1))
    · exact h.excl k1 k2 v1 v2 s (off_k e1 h1) (off_k e2 h2) b1 b2
  · rcases hdata b hb hkd with hx | ⟨hb0, hnk⟩
    · obtain ⟨y, hy, hby⟩ := Option.bind_eq_some_iff.mp hx
      exact ⟨k, y, (if_pos rfl).trans hy, hby⟩
    · obtain ⟨i, v, hiv, hbv⟩ := h.noleak b hb0 hkd
      have hi : i ≠ k := fun e => hnk (by rw [← e, hiv]; exact hbv)
      exact ⟨i, v, (if_neg hi).trans hiv, hbv⟩

theorem WOwn.tables {w w' : World} (h : WOwn w) (hc : w'.acfg = w.acfg) (hv : w'.vecs = w.vecs) (ht : w.heap.Tables w'.heap) :
    WOwn w' :=
  ⟨ht.wf, fun k v hk => hc ▸ owns_mono (h.owns k v (hv ▸ hk)) ht.sub,
   fun k1 k2 v1 v2 s h1 h2 => h.excl k1 k2 v1 v2 s (hv ▸ h1) (hv ▸ h2),
   fun b hb hk => (ht.new b hb).elim (fun hb0 => hv ▸ h.noleak b hb0 hk) (fun e => by rw [e] at hk; cases hk), ht.errs ▸ h.noerr⟩

theorem WOwn.failed {w w' : World} (h : WOwn w) (f : w.Failed w') : WOwn w' :=
  h.tables f.acfg f.vecs ((f.same h.wf).tables h.wf)

theorem WOwn.threw {w : World} (h : WOwn w) (t : Bool) : WOwn { w with threw := t } :=
  ⟨h.wf, h.owns, h.excl, h.noleak, h.noerr⟩

theorem WOwn.keep {w : World} (h : WOwn w) (k : Nat) {h' : Heap} (ht : w.heap.Tables h') (x : Vec)
    (hblk : x.blk = (w.vecs k).bind (·.blk)) (hown : Owns h' w.acfg x.S x.ptr) (t : Bool) :
    WOwn { (w.set k (some x)) with heap := h', threw := t } := by
  refine h.rebind k (some x) t ht.wf ht.errs (fun i v _ hiv => owns_mono (h.owns i v hiv) ht.sub)
    (fun y hy => by cases hy; exact hown) (fun s hs => Or.inl (hblk ▸ hs)) (fun b hb hkd => ?_)
  rcases ht.new b hb with hb0 | hb0
  · by_cases hbk : (w.vecs k).bind (·.blk) = some b.serial
    · exact Or.inl (hblk.trans hbk)
    · exact Or.inr ⟨hb0, hbk⟩
  · rw [hb0] at hkd; cases hkd

theorem WOwn.samePtr {w : World} (h : WOwn w) (k : Nat) {h' : Heap} (ht : w.heap.Tables h') {v : Vec} (hk : w.vecs k = some v)
    (x : Vec) (hp : x.ptr = v.ptr) (hS : x.S = v.S) (t : Bool) : WOwn { (w.set k (some x)) with heap := h', threw := t } :=
  h.keep k ht x (by rw [hk]; exact congrArg Ptr.blk hp) (by rw [hp, hS]; exact owns_mono (h.owns k v hk) ht.sub) t

theorem WOwn.install {w : World} (h : WOwn w) (k : Nat) (hk : w.vecs k = none) (x : Vec) {h' : Heap}
    (hf : Heap.Fresh w.acfg x.S w.heap h' x.ptr) (t : Bool) : WOwn { (w.set k (some x)) with heap := h', threw := t } := by
  refine h.rebind k (some x) t hf.wf hf.errs (fun i v _ hiv => owns_mono (h.owns i v hiv) hf.sub)
    (fun y hy => by cases hy; exact hf.owns) (fun s hs => Or.inr (Nat.le_of_eq (Option.some.inj (hf.blk.symm.trans hs))))
    (fun b hb hkd => ?_)
  rcases hf.new b hb with hb0 | hb0 | hb0
  · exact Or.inr ⟨hb0, by rw [hk]; nofun⟩
  · exact Or.inl (hb0 ▸ hf.blk)
  · rw [hb0] at hkd; cases hkd

/-- `q` is the pointer through which the owner under `k` gives its block back: its own, possibly with an equal allocator -/
theorem WOwn.renewBlock {w : World} (h : WOwn w) (k : Nat) {v : Vec} (hk : w.vecs k = some v) {u : Nat} (q : Ptr)
    (hq : q.blk = v.blk) (hqo : Owns w.heap w.acfg u q) (x : Vec) {h1 : Heap} (hf : Heap.Fresh w.acfg x.S w.heap h1 x.ptr)
    (t : Bool) : WOwn { (w.set k (some x)) with heap := q.dealloc h1 w.acfg u, threw := t } := by
  have hqown : Owns h1 w.acfg u q := owns_mono hqo hf.sub
  obtain ⟨herrs, hwf, hlive⟩ := dealloc_owned hf.wf hqown
  -- the old block of `k` is not the fresh one
  have hold : ∀ s, q.blk = some s → s ≠ w.heap.next := fun s hs e => Nat.lt_irrefl _ (e ▸ owns_lt h.wf hqo hs)
  refine h.rebind k (some x) t hwf (herrs.trans hf.errs) ?keep ?own
    (fun s hs => Or.inr (Nat.le_of_eq (Option.some.inj (hf.blk.symm.trans hs)))) ?data
  case keep =>
    intro i y hi hiy
    refine owns_after_dealloc_other hf.wf hqown (owns_mono (h.owns i y hiy) hf.sub) (fun s hs e => hi ?_)
    exact h.excl i k y v s hiy hk hs (hq ▸ e)
  case own =>
    intro y hy; cases hy
    exact owns_after_dealloc_other hf.wf hqown hf.owns (fun s hs e => hold s e (Option.some.inj (hs.symm.trans hf.blk)))
  case data =>
    intro b hb hkd
    obtain ⟨hb1, hbne⟩ := (hlive b).mp hb
    rcases hf.new b hb1 with h0 | h0 | h0
    · exact Or.inr ⟨h0, by rw [hk]; exact fun e => hbne (hq ▸ e.symm)⟩
    · exact Or.inl (h0 ▸ hf.blk)
    · rw [h0] at hkd; cases hkd

/-- `renewBlock` with the vector's own pointer and `Heap.Fresh` spelt out -/
theorem WOwn.replace {w : World} (h : WOwn w) (k : Nat) (v : Vec) (hv : w.vecs k = some v) (h1 : Heap) (hwf : h1.WF)
    (herr : h1.errs = w.heap.errs) (hsup : ∀ x, x ∈ w.heap.live → x ∈ h1.live)
    (hnew : ∀ x ∈ h1.live, x ∈ w.heap.live ∨ x.serial = w.heap.next ∨ x.kind = .table)
    (vn : Vec) (hown : Owns h1 w.acfg vn.S vn.ptr) (hblk : vn.blk = some w.heap.next) (t : Bool) :
    WOwn { (w.set k (some vn)) with heap := v.ptr.dealloc h1 w.acfg v.S, threw := t } :=
  h.renewBlock k hv v.ptr rfl (h.owns k v hv) vn ⟨hwf, herr, hsup, hnew, hblk, hown⟩ t

theorem WOwn.release {w : World} (h : WOwn w) (k : Nat) {v : Vec} (hk : w.vecs k = some v) (x : Option Vec)
    (hx : x.bind (·.blk) = none) (t : Bool) : WOwn { (w.set k x) with heap := v.ptr.dealloc w.heap w.acfg v.S, threw := t } := by
  obtain ⟨herrs, hwf, hlive⟩ := dealloc_owned h.wf (h.owns k v hk)
  refine h.rebind k x t hwf herrs ?keep ?own (fun s hs => by rw [hx] at hs; cases hs) ?data
  case keep =>
    intro i y hi hiy
    exact owns_after_dealloc_other h.wf (h.owns k v hk) (h.owns i y hiy) (fun s hs e => hi (h.excl i k y v s hiy hk hs e))
  case own =>
    intro y hy
    exact owns_null (by rw [hy] at hx; exact hx)
  case data =>
    intro b hb hkd
    obtain ⟨hb1, hbne⟩ := (hlive b).mp hb
    exact Or.inr ⟨hb1, by rw [hk]; exact fun e => hbne e.symm⟩

/-- a step of the owning pointer inside a world, after which the ledger may gain offset tables: the owner under `k` becomes `x`,
    built around the pointer the step yields -/
theorem WOwn.ptrStep {w : World} (h : WOwn w) (k : Nat) {v : Vec} (hv : w.vecs k = some v) (x : Vec) (hS : x.S = v.S) (t : Bool)
    {h1 h2 : Heap} (st : PtrStep w.acfg v.S w.heap v.blk h1 x.ptr) (ht : h1.WF → h1.Tables h2) :
    WOwn { (w.set k (some x)) with heap := h2, threw := t } := by
  rcases st with ⟨hs, hb, ho⟩ | ⟨h1, q, rfl, hq, hqo, hf⟩
  · have ht := (hs.tables h.wf).trans (ht (hs.wf h.wf))
    exact h.keep k ht x (by rw [hv]; exact hb) (hS ▸ owns_mono ho ht.sub) t
  · have h1 := h.renewBlock k hv q hq hqo x (hS ▸ hf) t
    exact h1.tables rfl rfl (ht h1.wf)

/-- the pointer-level reallocation inside a world: vector `k` (current pointer `v.ptr`) gets a fresh block from `newAlloc`; `mk`
    builds the new owner around the resulting pointer -/
theorem WOwn.reallocate {w : World} (h : WOwn w) (k : Nat) (v : Vec) (hv : w.vecs k = some v) (newAlloc units : Nat)
    (mk : Ptr → Vec) (hmk : ∀ p, (mk p).ptr = p ∧ (mk p).S = v.S) (t : Bool) :
    let r := v.ptr.reallocate w.heap w.acfg v.S newAlloc units
    WOwn { (w.set k (some (mk r.2.1))) with heap := r.1, threw := t } :=
  h.ptrStep k hv _ (hmk _).2 t ((hmk _).1.symm ▸ Ptr.reallocate_step h.wf (h.owns k v hv) newAlloc units) Heap.Tables.refl

def swapN (a b i : Nat) : Nat := if i = a then b else if i = b then a else i

def World.swapNames (w : World) (a b : Nat) : World := { w with vecs := fun i => w.vecs (swapN a b i) }

theorem WOwn.swapNames {w : World} (h : WOwn w) (a b : Nat) : WOwn (w.swapNames a b) :=
  -- exchanging `a` and `b` twice is the identity
  h.rename (swapN a b) (fun i => by unfold swapN; grind) (fun _ => rfl) rfl rfl

theorem World.swapNames_left (w : World) (a b : Nat) : (w.swapNames a b).vecs a = w.vecs b := by
  simp only [World.swapNames, swapN, if_true]

theorem World.swapNames_right (w : World) {a b : Nat} (hab : a ≠ b) : (w.swapNames a b).vecs b = w.vecs a := by
  simp only [World.swapNames, swapN, if_neg (Ne.symm hab), if_true]

/-- once both names are written it does not matter that they were exchanged first -/
theorem World.set_set_swapNames (w : World) (a b : Nat) (xa xb : Option Vec) (i : Nat) :
    ((w.set a xa).set b xb).vecs i = (((w.swapNames a b).set a xa).set b xb).vecs i :=
  ite_congr rfl (fun _ => rfl) fun hb => ite_congr rfl (fun _ => rfl) fun ha =>
    congrArg w.vecs (by rw [swapN, if_neg ha, if_neg hb])

/-- two names rebound at once, no block released: `a` gets an owner of what `b` held and `b` an owner of what `a` held
    (move construction, swap) -/
theorem WOwn.exchange {w : World} (h : WOwn w) {a b : Nat} (hab : a ≠ b) (xa xb : Vec) (t : Bool)
    (hxa : xa.blk = (w.vecs b).bind (·.blk)) (hxb : xb.blk = (w.vecs a).bind (·.blk))
    (hoa : Owns w.heap w.acfg xa.S xa.ptr) (hob : Owns w.heap w.acfg xb.S xb.ptr) :
    WOwn { ((w.set a (some xa)).set b (some xb)) with threw := t } := by
  -- exchange the names first: then each side keeps "its" block, and `keep` applies twice
  have h1 := (h.swapNames a b).keep a (.refl h.wf) xa (by rw [w.swapNames_left]; exact hxa) hoa t
  -- writing `a` has not touched `b`, which after the exchange of names holds what `a` held
  have hb : ({ (w.swapNames a b).set a (some xa) with threw := t } : World).vecs b = w.vecs a :=
    (if_neg (Ne.symm hab)).trans (w.swapNames_right hab)
  have h2 := h1.keep b (.refl h.wf) xb (by rw [hb]; exact hxb) hob t
  exact h2.congr (w.set_set_swapNames a b _ _) rfl rfl

/-- vector `d` returns its block and takes over the block of vector `s`, which is left without a block (stealing move
    assignment) -/
theorem WOwn.transfer {w : World} (h : WOwn w) {s d : Nat} {vs vd : Vec} (hvs : w.vecs s = some vs) (hvd : w.vecs d = some vd)
    (hsd : s ≠ d) (vn vm : Vec) (hvn : vn.blk = vs.blk) (hown : Owns w.heap w.acfg vn.S vn.ptr) (hvm : vm.blk = none) (t : Bool) :
    WOwn { ((w.set d (some vn)).set s (some vm)) with heap := vd.ptr.dealloc w.heap w.acfg vd.S, threw := t } := by
  -- exchange the names first: then `d` keeps the block it is to own, and `s` releases the one to be returned
  have h1 := (h.swapNames d s).keep d (.refl h.wf) vn (by rw [w.swapNames_left, hvs]; exact hvn) hown t
  -- writing `d` has not touched `s`, which after the exchange of names holds `vd`
  have hs : ({ (w.swapNames d s).set d (some vn) with threw := t } : World).vecs s = some vd :=
    (if_neg hsd).trans ((w.swapNames_right (Ne.symm hsd)).trans hvd)
  have h2 := h1.release s hs (some vm) hvm t
  exact h2.congr (w.set_set_swapNames d s _ _) rfl rfl

/-- in-place operations that leave the owning pointer alone (emplace_back, pop_back, erase, clear) -/
theorem WOwn.upd {w : World} (h : WOwn w) (k : Nat) (f : Vec → Vec) (hf : ∀ v, SameFrame v (f v)) : WOwn (w.upd k f) := by
  cases hv : w.vecs k with
  | none => rw [World.upd_none f hv]; exact h
  | some v =>
    rw [World.upd_some f hv]
    have hfr := hf v
    have hp : (f v).ptr = v.ptr := by unfold Vec.ptr; rw [hfr.blk, hfr.units, hfr.alloc]
    exact h.samePtr k (.refl h.wf) hv _ hp (congrArg storageAl hfr.ps) false

theorem WOwn.new {w : World} (h : WOwn w) (k : Nat) (ps : List Param) (fs : List Nat) (cap bytes alloc : Nat)
    (hk : w.vecs k = none) : WOwn (w.new k ps fs cap bytes alloc) := by
  rcases w.new_cases k ps fs cap bytes alloc with hf | ⟨h1, p, t, hp, e⟩
  · exact h.failed hf
  · rw [e]
    exact h.install k hk _ (allocPair_some h.wf hp).2 false

theorem WOwn.copy {w : World} (h : WOwn w) (s d : Nat) (hd : w.vecs d = none) : WOwn (w.copy s d) := by
  rcases w.copy_cases s d with ⟨_, e⟩ | hf | ⟨vs, h1, p, t, _, hp, e⟩
  · rw [e]; exact h
  · exact h.failed hf
  · rw [e]
    exact h.install d hd _ (allocPair_some h.wf hp).2 false

theorem WOwn.reserve {w : World} (h : WOwn w) (k n b : Nat) : WOwn (w.reserve k n b) := by
  rcases w.reserve_cases k n b with e | e | ⟨v, hv, _, hf | ⟨h1, p, t, hp, e⟩⟩
  · rw [e]; exact h
  · rw [e]; exact h.threw false
  · exact h.failed hf
  · rw [e]
    obtain ⟨rfl, hfr⟩ := allocPair_some h.wf hp
    have hS : (v.reserve n b w.junk).S = v.S := congrArg storageAl (reserve_frame v n b w.junk).1
    -- of the reserved vector only the storage alignment matters
    generalize v.reserve n b w.junk = v' at hS hfr ⊢
    exact h.renewBlock k hv v.ptr rfl (h.owns k v hv) _ (hS ▸ hfr) false

theorem WOwn.destroy {w : World} (h : WOwn w) (k : Nat) : WOwn (w.destroy k) := by
  cases hv : w.vecs k with
  | none => rw [World.destroy_none hv]; exact h
  | some v => rw [World.destroy_some hv]; exact h.release k hv none rfl false

/-- move construction: ownership of the block goes to the new vector, the source owns nothing -/
theorem WOwn.move {w : World} (h : WOwn w) (s d : Nat) (hd : w.vecs d = none) : WOwn (w.move s d) := by
  cases hv : w.vecs s with
  | none => rw [World.move_none d hv]; exact h
  | some vs =>
    have hds : d ≠ s := fun e => by rw [e, hv] at hd; cases hd
    rw [World.move_some d hv]
    exact h.exchange hds vs vs.movedFrom false (hv ▸ rfl) (hd ▸ rfl) (h.owns s vs hv) (owns_null rfl)

/-- swap; allocator-aware swap requires propagating or equal allocators (the standard's precondition) -/
theorem WOwn.swap {w : World} (h : WOwn w) (a b : Nat)
    (hpre : ∀ va vb, w.vecs a = some va → w.vecs b = some vb → w.acfg.pocs = true ∨ w.acfg.ae = true ∨ va.alloc = vb.alloc) :
    WOwn (w.swap a b) := by
  rcases lookup_pair_cases w.vecs a b with ht | ⟨va, vb, hab, hva, hvb⟩
  · exact (World.binary_trivial ht h (h.threw false)).swap
  · rw [World.swap_some hab hva hvb]
    obtain ⟨hoa, hob⟩ := swap_owns w.heap w.acfg va.ptr vb.ptr (h.owns a va hva) (h.owns b vb hvb) (hpre va vb hva hvb)
    exact h.exchange hab _ _ false (hvb ▸ (swap_spec w.acfg va.ptr vb.ptr).1) (hva ▸ (swap_spec w.acfg va.ptr vb.ptr).2.1) hoa hob

theorem WOwn.copyAssign {w : World} (h : WOwn w) (s d : Nat) : WOwn (w.copyAssign s d) := by
  rcases lookup_pair_cases w.vecs s d with ht | ⟨vs, vd, hsd, hs, hd⟩
  · exact (World.binary_trivial ht h (h.threw false)).copyAssign
  · have st := Ptr.copyAssign_step h.wf (h.owns d vd hd) vs.ptr
    -- of the cleared target only the owning pointer and the storage alignment matter
    have hc : vd.clear.ptr = vd.ptr ∧ vd.clear.S = vd.S := ⟨rfl, rfl⟩
    rcases World.copyAssign_cases hsd hs hd with ⟨h1, p1, hr, e⟩ | ⟨h1, p1, h2, hr, ht, e⟩ | ⟨h1, p1, h2, t, hr, ht, e⟩ <;>
      rw [e] <;> generalize vd.clear = c at hc hr ⊢ <;> rw [hc.1] at hr <;> rw [hr] at st
    · exact h.ptrStep d hd (c.setPtr p1) hc.2 true st Heap.Tables.refl
    · exact h.ptrStep d hd { (c.setPtr p1) with cap := 0 } hc.2 true st (allocTable_none ht).1.tables
    · exact h.ptrStep d hd ((c.setPtr p1).received vs t w.junk) hc.2 false st (fun hw => allocTable_some hw ht)

theorem WOwn.moveAssign {w : World} (h : WOwn w) (s d : Nat) : WOwn (w.moveAssign s d) := by
  rcases lookup_pair_cases w.vecs s d with ht | ⟨vs, vd, hsd, hs, hd⟩
  · exact (World.binary_trivial ht h (h.threw false)).moveAssign
  · rcases World.moveAssign_cases hsd hs hd with ⟨hst, e⟩ | ⟨_, hf | ⟨h', p, t, _, hp, e⟩⟩
    · rw [e]
      refine h.transfer hs hd hsd _ _ (by rfl) ?_ (by rfl) false
      exact owns_stolen vd.alloc (h.owns s vs hs) hst
    · exact h.failed hf
    · rw [e]
      -- the target in its old block or in a fresh one; then the source, which keeps its block
      have h1 : WOwn { (w.set d (some ((vd.setPtr p).received vs t w.junk))) with heap := h', threw := false } := by
        rcases hp with ⟨rfl, ht⟩ | ⟨h2, np, hp, rfl, rfl⟩
        · exact h.samePtr d (allocTable_some h.wf ht) hd ((vd.setPtr vd.ptr).received vs t w.junk) rfl rfl false
        · obtain ⟨rfl, hfr⟩ := allocPair_some h.wf hp
          exact h.renewBlock d hd vd.ptr rfl (h.owns d vd hd) _ hfr false
      exact h1.samePtr s (.refl h1.wf) ((if_neg hsd).trans hs) vs.withMovedValues rfl rfl false

inductive OOp
  | new (k : Nat) (ps : List Param) (fs : List Nat) (cap bytes alloc : Nat)
  | inplace (k : Nat) (op : VOp)
  | reserve (k n b : Nat)
  | copy (s d : Nat)
  | move (s d : Nat)
  | copyAssign (s d : Nat)
  | moveAssign (s d : Nat)
  | swap (a b : Nat)
  | destroy (k : Nat)

def OOp.apply (w : World) : OOp → World
  | .new k ps fs cap bytes alloc => w.new k ps fs cap bytes alloc
  | .inplace k op => w.upd k (op.apply w.junk)
  | .reserve k n b => w.reserve k n b
  | .copy s d => w.copy s d
  | .move s d => w.move s d
  | .copyAssign s d => w.copyAssign s d
  | .moveAssign s d => w.moveAssign s d
  | .swap a b => w.swap a b
  | .destroy k => w.destroy k

/-- what the interface demands of its caller as far as memory ownership goes: a new vector gets a free name, `swap` is
    called with propagating or equal allocators, in-place operations are the non-allocating ones (reserve is separate) -/
def OOp.Pre (w : World) : OOp → Prop
  | .new k _ _ _ _ _ => w.vecs k = none
  | .inplace _ op => ∀ n b, op ≠ .reserve n b
  | .copy _ d => w.vecs d = none
  | .move s d => w.vecs d = none ∧ s ≠ d
  | .swap a b => ∀ va vb, w.vecs a = some va → w.vecs b = some vb → w.acfg.pocs = true ∨ w.acfg.ae = true ∨ va.alloc = vb.alloc
  | _ => True

theorem WOwn.step {w : World} (h : WOwn w) (op : OOp) (hpre : op.Pre w) : WOwn (op.apply w) := by
  cases op with
  | new k ps fs cap bytes alloc => exact h.new k ps fs cap bytes alloc hpre
  | inplace k op =>
    exact h.upd k _ (fun v => apply_frame w.junk v op hpre)
  | reserve k n b => exact h.reserve k n b
  | copy s d => exact h.copy s d hpre
  | move s d => exact h.move s d hpre.1
  | copyAssign s d => exact h.copyAssign s d
  | moveAssign s d => exact h.moveAssign s d
  | swap a b => exact h.swap a b hpre
  | destroy k => exact h.destroy k

def OValid : World → List OOp → Prop
  | _, [] => True
  | w, op :: ops => op.Pre w ∧ OValid (op.apply w) ops

/-- **every history, allocation failures included**: the ownership discipline holds in every reachable state -/
theorem WOwn.history {w : World} (h : WOwn w) (ops : List OOp) (hv : OValid w ops) : WOwn (ops.foldl OOp.apply w) := by
  induction ops generalizing w with
  | nil => exact h
  | cons op ops ih => exact ih (h.step op hv.1) hv.2

theorem WOwn.init (c : ACfg) : WOwn ({ acfg := c } : World) :=
  ⟨⟨fun _ hb => absurd hb (by simp), by simp⟩, fun _ _ hk => absurd hk (by simp), fun _ _ _ _ _ hk => absurd hk (by simp),
   fun _ hb => absurd hb (by simp), rfl⟩

end Cntgs
