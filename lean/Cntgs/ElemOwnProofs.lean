/-
Ownership over histories that mix vectors and standalone elements (C07).

The elements of an `EWorld` are read as owners next to the vectors: `joint` puts vector `k` at name `2k` and element
`k` at name `2k+1` of one `World` (an element is seen as a vector that carries only its owning pointer).  `EOwn` is
the ownership invariant `WOwn` of that joint world: the ledger is well-formed, every vector and every element owns a
live block of its recorded size from an equal allocator, no block has two owners, every live data block has an owner,
and no ledger error (double free, wrong size, wrong allocator) has occurred.  Every operation of the interface — on
vectors and on elements, allocation failures included — preserves it.

The joint world is `merge w g`: the vectors of `w` at the even names, the owners `g` at the odd ones.  A vector operation
commutes with `merge · g` (`apply_merge`); writing an element is writing an odd name (`joint_setE`), so an element operation,
in the form ElemProofs gives its result, goes through the steps of `WOwn`, lifted to elements (`EOwn.same`, `exchange`,
`install`, `keep`, `renewBlock`, `transfer`).
-/
import Cntgs.OwnProofs
import Cntgs.ElemProofs
namespace Cntgs

/-- an element as an owner: only its owning pointer matters -/
def ElemSt.toVec (ps : List Param) (e : ElemSt) : Vec :=
  { ps := ps, fs := [], blk := e.ptr.blk, units := e.ptr.units, alloc := e.ptr.alloc }

theorem toVec_ptr (ps : List Param) (e : ElemSt) : (e.toVec ps).ptr = e.ptr := rfl
theorem toVec_S (ps : List Param) (e : ElemSt) : (e.toVec ps).S = storageAl ps := rfl

/-- vectors at even names, elements at odd names -/
def joint (ps : List Param) (ew : EWorld) : World :=
  { ew.w with vecs := fun i => if i % 2 = 0 then ew.w.vecs (i / 2) else (ew.elems (i / 2)).map (ElemSt.toVec ps) }

def EOwn (ps : List Param) (ew : EWorld) : Prop := WOwn (joint ps ew)

theorem even_or_odd (i : Nat) : (∃ k, i = 2 * k) ∨ ∃ k, i = 2 * k + 1 := by
  have h := Nat.div_add_mod i 2
  rcases Nat.mod_two_eq_zero_or_one i with e | e <;> rw [e] at h
  · exact Or.inl ⟨_, h.symm⟩
  · exact Or.inr ⟨_, h.symm⟩

theorem even_inj {i k : Nat} : 2 * i = 2 * k ↔ i = k := Nat.mul_left_cancel_iff Nat.zero_lt_two
theorem odd_inj {i k : Nat} : 2 * i + 1 = 2 * k + 1 ↔ i = k := Nat.add_right_cancel_iff.trans even_inj
theorem even_ne_odd (i k : Nat) : 2 * i ≠ 2 * k + 1 := by omega
theorem odd_ne_even (i k : Nat) : 2 * i + 1 ≠ 2 * k := (even_ne_odd k i).symm

def merge (w : World) (g : Nat → Option Vec) : World :=
  { w with vecs := fun i => if i % 2 = 0 then w.vecs (i / 2) else g (i / 2) }

def owners (ps : List Param) (E : Nat → Option ElemSt) : Nat → Option Vec := fun k => (E k).map (ElemSt.toVec ps)

theorem joint_eq_merge (ps : List Param) (ew : EWorld) : joint ps ew = merge ew.w (owners ps ew.elems) := rfl

theorem merge_even (w : World) (g : Nat → Option Vec) (k : Nat) : (merge w g).vecs (2 * k) = w.vecs k := by
  show (if 2 * k % 2 = 0 then w.vecs (2 * k / 2) else g (2 * k / 2)) = w.vecs k
  rw [if_pos (Nat.mul_mod_right 2 k), Nat.mul_div_cancel_left k (by decide)]

theorem merge_odd (w : World) (g : Nat → Option Vec) (k : Nat) : (merge w g).vecs (2 * k + 1) = g k := by
  show (if (2 * k + 1) % 2 = 0 then w.vecs ((2 * k + 1) / 2) else g ((2 * k + 1) / 2)) = g k
  rw [if_neg (by rw [Nat.mul_add_mod]; decide), Nat.mul_add_div Nat.zero_lt_two]
  rfl

theorem merge_ext {W : World} {w : World} {g : Nat → Option Vec} (he : ∀ k, W.vecs (2 * k) = w.vecs k)
    (ho : ∀ k, W.vecs (2 * k + 1) = g k) (h1 : W.heap = w.heap) (h2 : W.acfg = w.acfg) (h3 : W.junk = w.junk)
    (h4 : W.threw = w.threw) : W = merge w g := by
  have hv : W.vecs = (merge w g).vecs := by
    funext i
    rcases even_or_odd i with ⟨k, rfl⟩ | ⟨k, rfl⟩
    · exact (he k).trans (merge_even w g k).symm
    · exact (ho k).trans (merge_odd w g k).symm
  cases W
  simp only at hv h1 h2 h3 h4
  subst hv h1 h2 h3 h4
  rfl

theorem merge_set_even (w : World) (g : Nat → Option Vec) (k : Nat) (v : Option Vec) :
    (merge w g).set (2 * k) v = merge (w.set k v) g :=
  merge_ext (fun i => by simp only [World.set, merge_even, even_inj])
    (fun i => by simp only [World.set, merge_odd, odd_ne_even, if_false]) rfl rfl rfl rfl

theorem merge_set_odd (w : World) (g : Nat → Option Vec) (k : Nat) (v : Option Vec) :
    (merge w g).set (2 * k + 1) v = merge w (eset g k v) :=
  merge_ext (fun i => by simp only [World.set, merge_even, even_ne_odd, if_false])
    (fun i => by simp only [World.set, merge_odd, odd_inj, eset]) rfl rfl rfl rfl

theorem joint_even (ps : List Param) (ew : EWorld) (k : Nat) : (joint ps ew).vecs (2 * k) = ew.w.vecs k :=
  merge_even ew.w (owners ps ew.elems) k

theorem joint_odd (ps : List Param) (ew : EWorld) (k : Nat) :
    (joint ps ew).vecs (2 * k + 1) = (ew.elems k).map (ElemSt.toVec ps) :=
  merge_odd ew.w (owners ps ew.elems) k

theorem joint_heap (ps : List Param) (ew : EWorld) : (joint ps ew).heap = ew.w.heap := rfl
theorem joint_acfg (ps : List Param) (ew : EWorld) : (joint ps ew).acfg = ew.w.acfg := rfl
theorem joint_junk (ps : List Param) (ew : EWorld) : (joint ps ew).junk = ew.w.junk := rfl

theorem merge_heap (w : World) (g : Nat → Option Vec) : (merge w g).heap = w.heap := rfl
theorem merge_acfg (w : World) (g : Nat → Option Vec) : (merge w g).acfg = w.acfg := rfl
theorem merge_junk (w : World) (g : Nat → Option Vec) : (merge w g).junk = w.junk := rfl

/-- one vector written (`merge_commit2`: two), ledger and flag set: the form in which the operations end -/
theorem merge_commit (w : World) (g : Nat → Option Vec) (k : Nat) (x : Option Vec) (h : Heap) (t : Bool) :
    { (merge w g).set (2 * k) x with heap := h, threw := t } = merge { w.set k x with heap := h, threw := t } g := by
  rw [merge_set_even]; rfl

theorem merge_commit2 (w : World) (g : Nat → Option Vec) (a b : Nat) (x y : Option Vec) (h : Heap) (t : Bool) :
    { ((merge w g).set (2 * a) x).set (2 * b) y with heap := h, threw := t } =
      merge { (w.set a x).set b y with heap := h, threw := t } g := by
  rw [merge_set_even, merge_set_even]; rfl

theorem merge_new (w : World) (g : Nat → Option Vec) (k : Nat) (ps : List Param) (fs : List Nat) (cap bytes alloc : Nat) :
    (merge w g).new (2 * k) ps fs cap bytes alloc = merge (w.new k ps fs cap bytes alloc) g := by
  unfold World.new
  simp only [merge_heap, merge_acfg, merge_junk]
  split
  · rfl
  · exact merge_commit ..

theorem merge_upd (w : World) (g : Nat → Option Vec) (k : Nat) (f : Vec → Vec) :
    (merge w g).upd (2 * k) f = merge (w.upd k f) g := by
  unfold World.upd
  rw [merge_even]
  cases w.vecs k with
  | none => rfl
  | some v => exact merge_commit ..

theorem merge_reserve (w : World) (g : Nat → Option Vec) (k n b : Nat) :
    (merge w g).reserve (2 * k) n b = merge (w.reserve k n b) g := by
  unfold World.reserve
  rw [merge_even]
  cases w.vecs k with
  | none => rfl
  | some v =>
    simp only [merge_heap, merge_acfg, merge_junk]
    split
    · split
      · rfl
      · exact merge_commit ..
    · rfl

theorem merge_copy (w : World) (g : Nat → Option Vec) (s d : Nat) :
    (merge w g).copy (2 * s) (2 * d) = merge (w.copy s d) g := by
  unfold World.copy
  rw [merge_even]
  cases w.vecs s with
  | none => rfl
  | some vs =>
    simp only [merge_heap, merge_acfg, merge_junk]
    split
    · rfl
    · exact merge_commit ..

theorem merge_move (w : World) (g : Nat → Option Vec) (s d : Nat) :
    (merge w g).move (2 * s) (2 * d) = merge (w.move s d) g := by
  unfold World.move
  rw [merge_even]
  cases w.vecs s with
  | none => rfl
  | some vs => exact merge_commit2 ..

theorem merge_destroy (w : World) (g : Nat → Option Vec) (k : Nat) :
    (merge w g).destroy (2 * k) = merge (w.destroy k) g := by
  unfold World.destroy
  rw [merge_even]
  cases w.vecs k with
  | none => rfl
  | some v => exact merge_commit ..

theorem merge_swap (w : World) (g : Nat → Option Vec) (a b : Nat) :
    (merge w g).swap (2 * a) (2 * b) = merge (w.swap a b) g := by
  unfold World.swap
  by_cases hab : a = b
  · rw [if_pos hab, if_pos (even_inj.mpr hab)]; rfl
  · rw [if_neg hab, if_neg (mt even_inj.mp hab), merge_even, merge_even]
    cases w.vecs a with
    | none => rfl
    | some va => cases w.vecs b with
      | none => rfl
      | some vb => exact merge_commit2 ..

theorem merge_copyAssign (w : World) (g : Nat → Option Vec) (s d : Nat) :
    (merge w g).copyAssign (2 * s) (2 * d) = merge (w.copyAssign s d) g := by
  unfold World.copyAssign
  by_cases hsd : s = d
  · rw [if_pos hsd, if_pos (even_inj.mpr hsd)]; rfl
  · rw [if_neg hsd, if_neg (mt even_inj.mp hsd), merge_even, merge_even]
    cases w.vecs s with
    | none => rfl
    | some vs => cases w.vecs d with
      | none => rfl
      | some vd =>
        simp only [merge_heap, merge_acfg, merge_junk]
        split
        · exact merge_commit ..
        · split <;> exact merge_commit ..

/-- `f` goes through an `if` through whose branches it goes: for two sides that branch alike, instead of splitting both -/
theorem ite_both {α β : Type} (f : α → β) {c : Prop} [Decidable c] {x y : β} {x' y' : α} (hx : c → x = f x') (hy : ¬c → y = f y') :
    (if c then x else y) = f (if c then x' else y') := by
  by_cases h : c
  · rw [if_pos h, if_pos h]; exact hx h
  · rw [if_neg h, if_neg h]; exact hy h

theorem merge_moveAssign (w : World) (g : Nat → Option Vec) (s d : Nat) :
    (merge w g).moveAssign (2 * s) (2 * d) = merge (w.moveAssign s d) g := by
  unfold World.moveAssign
  by_cases hsd : s = d
  · rw [if_pos hsd, if_pos (even_inj.mpr hsd)]; rfl
  · rw [if_neg hsd, if_neg (mt even_inj.mp hsd), merge_even, merge_even]
    cases w.vecs s with
    | none => rfl
    | some vs => cases w.vecs d with
      | none => rfl
      | some vd =>
        refine ite_both (merge · g) (fun _ => merge_commit2 ..) fun _ => ite_both (merge · g) (fun _ => ?_) fun _ => ?_
        · simp only [merge_heap, merge_acfg]
          split
          · rfl
          · exact merge_commit2 ..
        · simp only [merge_heap]
          split
          · rfl
          · exact merge_commit2 ..

/-- the vector names of an operation, doubled -/
def OOp.ren : OOp → OOp
  | .new k ps fs cap bytes alloc => .new (2 * k) ps fs cap bytes alloc
  | .inplace k op => .inplace (2 * k) op
  | .reserve k n b => .reserve (2 * k) n b
  | .copy s d => .copy (2 * s) (2 * d)
  | .move s d => .move (2 * s) (2 * d)
  | .copyAssign s d => .copyAssign (2 * s) (2 * d)
  | .moveAssign s d => .moveAssign (2 * s) (2 * d)
  | .swap a b => .swap (2 * a) (2 * b)
  | .destroy k => .destroy (2 * k)

theorem apply_merge (w : World) (g : Nat → Option Vec) (op : OOp) : op.ren.apply (merge w g) = merge (op.apply w) g := by
  cases op with
  | new k ps fs cap bytes alloc => exact merge_new w g k ps fs cap bytes alloc
  | inplace k vop => exact merge_upd w g k _
  | reserve k n b => exact merge_reserve w g k n b
  | copy s d => exact merge_copy w g s d
  | move s d => exact merge_move w g s d
  | copyAssign s d => exact merge_copyAssign w g s d
  | moveAssign s d => exact merge_moveAssign w g s d
  | swap a b => exact merge_swap w g a b
  | destroy k => exact merge_destroy w g k

/-- a vector operation on the world of an `EWorld` is the renamed operation on the joint world -/
theorem joint_vec_op (ps : List Param) (ew : EWorld) (op : OOp) :
    (joint ps { ew with w := op.apply ew.w }).vecs = (op.ren.apply (joint ps ew)).vecs ∧
    (op.apply ew.w).heap = (op.ren.apply (joint ps ew)).heap ∧ (op.apply ew.w).acfg = (op.ren.apply (joint ps ew)).acfg := by
  rw [joint_eq_merge ps ew, apply_merge]
  exact ⟨rfl, rfl, rfl⟩

theorem OOp.ren_pre {w : World} (g : Nat → Option Vec) {op : OOp} (h : op.Pre w) : op.ren.Pre (merge w g) := by
  cases op with
  | new k ps fs cap bytes alloc => exact (merge_even w g k).trans h
  | inplace k vop => exact h
  | copy s d => exact (merge_even w g d).trans h
  | move s d => exact ⟨(merge_even w g d).trans h.1, mt even_inj.mp h.2⟩
  | swap a b => exact fun va vb ha hb => h va vb ((merge_even w g a).symm.trans ha) ((merge_even w g b).symm.trans hb)
  | _ => trivial

theorem owners_eset (ps : List Param) (E : Nat → Option ElemSt) (k : Nat) (e : Option ElemSt) :
    owners ps (eset E k e) = eset (owners ps E) k (e.map (ElemSt.toVec ps)) := by
  funext i
  unfold owners eset
  split <;> rfl

theorem joint_setE (ps : List Param) (ew : EWorld) (k : Nat) (e : Option ElemSt) :
    joint ps (ew.setE k e) = (joint ps ew).set (2 * k + 1) (e.map (ElemSt.toVec ps)) := by
  rw [joint_eq_merge, joint_eq_merge, merge_set_odd, ← owners_eset]; rfl

theorem joint_done (ps : List Param) (ew : EWorld) (h : Heap) (t : Bool) :
    joint ps (ew.done h t) = { joint ps ew with heap := h, threw := t } := rfl

theorem joint_elem {ps : List Param} {ew : EWorld} {k : Nat} {e : ElemSt} (he : ew.elems k = some e) :
    (joint ps ew).vecs (2 * k + 1) = some (e.toVec ps) := by
  rw [joint_odd, he]; rfl

theorem EOwn.owns_elem {ps : List Param} {ew : EWorld} (h : EOwn ps ew) {k : Nat} {e : ElemSt} (he : ew.elems k = some e) :
    Owns ew.w.heap ew.w.acfg (storageAl ps) e.ptr :=
  h.owns _ _ (joint_elem he)

theorem EOwn.same {ps : List Param} {ew : EWorld} (h : EOwn ps ew) {h1 : Heap} (hs : ew.w.heap.Same h1) (t : Bool) :
    EOwn ps (ew.done h1 t) :=
  WOwn.tables h rfl rfl (hs.tables h.wf)

theorem EOwn.thrown {ps : List Param} {ew : EWorld} (h : EOwn ps ew) : EOwn ps (ew.done ew.w.heap.thrown true) :=
  h.same ew.w.heap.same_thrown true

theorem EOwn.failed {ps : List Param} {ew : EWorld} (h : EOwn ps ew) (units al : Nat) (h1 : Heap)
    (hm : Ptr.make ew.w.heap units (storageAl ps) al = (h1, none)) :
    EOwn ps { ew with w := { ew.w with heap := h1, threw := true } } :=
  h.same (make_none hm) true

/-- the form in which every element operation ends, read in the joint world: the odd name `2k+1` is rebound, ledger and flag set -/
theorem eOwn_setE_done (ps : List Param) (ew : EWorld) (k : Nat) (e : Option ElemSt) (h1 : Heap) (t : Bool) :
    EOwn ps ((ew.setE k e).done h1 t) =
      WOwn { (joint ps ew).set (2 * k + 1) (e.map (ElemSt.toVec ps)) with heap := h1, threw := t } := by
  unfold EOwn; rw [joint_done, joint_setE]

theorem EOwn.install {ps : List Param} {ew : EWorld} (h : EOwn ps ew) {k : Nat} (hk : ew.elems k = none) (units al : Nat)
    (val : Elem) (bytes : Nat) (t : Bool) :
    EOwn ps ((ew.setE k (some ⟨val, bytes, ⟨some ew.w.heap.next, units, al⟩⟩)).done
      (ew.w.heap.grown al (units * storageAl ps) .data) t) := by
  rw [eOwn_setE_done]
  refine WOwn.install h (2 * k + 1) (by rw [joint_odd, hk]; rfl) _ ?_ t
  exact ew.w.heap.fresh_grown h.wf ew.w.acfg units (storageAl ps) al

theorem EOwn.keep {ps : List Param} {ew : EWorld} (h : EOwn ps ew) {k : Nat} {e : ElemSt} (he : ew.elems k = some e) {h1 : Heap}
    (hs : ew.w.heap.Same h1) (x : ElemSt) (hblk : x.ptr.blk = e.ptr.blk) (hown : Owns ew.w.heap ew.w.acfg (storageAl ps) x.ptr)
    (t : Bool) : EOwn ps ((ew.setE k (some x)).done h1 t) := by
  rw [eOwn_setE_done]
  exact WOwn.keep h (2 * k + 1) (hs.tables h.wf) (x.toVec ps) (by rw [joint_elem he]; exact hblk) (hs.owns hown) t

theorem EOwn.samePtr {ps : List Param} {ew : EWorld} (h : EOwn ps ew) {k : Nat} {e : ElemSt} (he : ew.elems k = some e) (x : ElemSt)
    (hx : x.ptr = e.ptr) (t : Bool) : EOwn ps ((ew.setE k (some x)).done ew.w.heap t) :=
  h.keep he (.refl _) x (congrArg _ hx) (hx ▸ h.owns_elem he) t

/-- two elements rebound at once, no block released: `a` gets an owner of what `b` held and `b` an owner of what `a` held -/
theorem EOwn.exchange {ps : List Param} {ew : EWorld} (h : EOwn ps ew) {a b : Nat} (hab : a ≠ b) (x y : ElemSt)
    (hx : x.ptr.blk = (ew.elems b).bind (·.ptr.blk)) (hy : y.ptr.blk = (ew.elems a).bind (·.ptr.blk))
    (hox : Owns ew.w.heap ew.w.acfg (storageAl ps) x.ptr) (hoy : Owns ew.w.heap ew.w.acfg (storageAl ps) y.ptr) :
    EOwn ps ((ew.setE a (some x)).setE b (some y)) := by
  unfold EOwn
  rw [joint_setE, joint_setE]
  refine WOwn.exchange h (mt odd_inj.mp hab) (x.toVec ps) (y.toVec ps) _ ?_ ?_ hox hoy
  · rw [joint_odd, Option.bind_map]; exact hx
  · rw [joint_odd, Option.bind_map]; exact hy

/-- element `b` returns its block and takes over the fresh block `heap.next` -/
theorem EOwn.renewBlock {ps : List Param} {ew : EWorld} (h : EOwn ps ew) {b : Nat} {eb : ElemSt} (hb : ew.elems b = some eb)
    (units al : Nat) (val : Elem) (bytes : Nat) (t : Bool) :
    EOwn ps ((ew.setE b (some ⟨val, bytes, ⟨some ew.w.heap.next, units, al⟩⟩)).done
      (eb.ptr.dealloc (ew.w.heap.grown al (units * storageAl ps) .data) ew.w.acfg (storageAl ps)) t) := by
  rw [eOwn_setE_done]
  refine WOwn.renewBlock h (2 * b + 1) (joint_elem hb) eb.ptr rfl (h.owns_elem hb) _ ?_ t
  exact ew.w.heap.fresh_grown h.wf ew.w.acfg units (storageAl ps) al

/-- element `b` returns its block and takes over the block of element `a`, which is left without one -/
theorem EOwn.transfer {ps : List Param} {ew : EWorld} (h : EOwn ps ew) {a b : Nat} {ea eb : ElemSt} (ha : ew.elems a = some ea)
    (hb : ew.elems b = some eb) (hab : a ≠ b) (x y : ElemSt) (hx : x.ptr.blk = ea.ptr.blk)
    (hown : Owns ew.w.heap ew.w.acfg (storageAl ps) x.ptr) (hy : y.ptr.blk = none) (t : Bool) :
    EOwn ps (((ew.setE b (some x)).setE a (some y)).done (eb.ptr.dealloc ew.w.heap ew.w.acfg (storageAl ps)) t) := by
  unfold EOwn
  rw [joint_done, joint_setE, joint_setE]
  exact WOwn.transfer h (joint_elem ha) (joint_elem hb) (mt odd_inj.mp hab) (x.toVec ps) (y.toVec ps) hx hown hy t

theorem EOwn.destroy {ps : List Param} {ew : EWorld} (h : EOwn ps ew) (k : Nat) : EOwn ps (ew.elemDestroy ps k) := by
  refine elim_cases (EWorld.elemDestroy_eq ..) h fun e he => ?_
  rw [eOwn_setE_done]
  exact WOwn.release h (2 * k + 1) (joint_elem he) none rfl false

theorem EOwn.move {ps : List Param} {ew : EWorld} (h : EOwn ps ew) (a b : Nat) (hb : ew.elems b = none) :
    EOwn ps (ew.elemMove a b) := by
  refine elim_cases (EWorld.elemMove_eq ..) h fun ea hea => ?_
  have hab : b ≠ a := fun e => by rw [e, hea] at hb; cases hb
  exact (h.exchange hab ea ea.movedFrom (hea ▸ rfl) (hb ▸ rfl) (h.owns_elem hea) (owns_null rfl)).same (.refl _) false

theorem EOwn.swap {ps : List Param} {ew : EWorld} (h : EOwn ps ew) (a b : Nat)
    (hpre : ∀ ea eb, ew.elems a = some ea → ew.elems b = some eb →
      ew.w.acfg.pocs = true ∨ ew.w.acfg.ae = true ∨ ea.ptr.alloc = eb.ptr.alloc) :
    EOwn ps (ew.elemSwap a b) := by
  rcases lookup_pair_cases ew.elems a b with ht | ⟨ea, eb, hab, hea, heb⟩
  · exact (EWorld.binary_trivial ht h (h.same (.refl _) false)).swap
  · obtain ⟨hoa, hob⟩ := swap_owns ew.w.heap ew.w.acfg ea.ptr eb.ptr (h.owns_elem hea) (h.owns_elem heb) (hpre ea eb hea heb)
    have hs := swap_spec ew.w.acfg ea.ptr eb.ptr
    rw [EWorld.elemSwap_some hab hea heb]
    exact (h.exchange hab _ _ (heb ▸ hs.1) (hea ▸ hs.2.1) hoa hob).same (.refl _) false

theorem EOwn.copy {ps : List Param} {ew : EWorld} (h : EOwn ps ew) (a b : Nat) (hb : ew.elems b = none) :
    EOwn ps (ew.elemCopy ps a b) :=
  elim_cases (EWorld.elemCopy_eq ..) h fun _ _ =>
    ite_cases (fun _ => h.thrown) (fun _ => h.install hb _ _ _ _ false)

theorem EOwn.copyA {ps : List Param} {ew : EWorld} (h : EOwn ps ew) (a b al : Nat) (hb : ew.elems b = none) :
    EOwn ps (ew.elemCopyA ps a b al) :=
  elim_cases (EWorld.elemCopyA_eq ..) h fun _ _ =>
    ite_cases (fun _ => h.thrown) (fun _ => h.install hb _ _ _ _ false)

theorem EOwn.fromRef {ps : List Param} {ew : EWorld} (h : EOwn ps ew) (k s i al : Nat) (mv : Bool) (hk : ew.elems k = none) :
    EOwn ps (ew.elemFromRef ps k s i al mv) := by
  refine elim_cases (EWorld.elemFromRef_eq ..) h fun ve hv => ite_cases (fun _ => h.thrown) (fun _ => ?_)
  cases mv with
  | false => exact h.install hk _ _ _ _ false
  | true =>
    -- the referenced vector element is moved from: the vector keeps its block
    obtain ⟨v, hvs, hm⟩ := Option.bind_eq_some_iff.mp hv
    obtain ⟨e, _, rfl⟩ := Option.map_eq_some_iff.mp hm
    have h1 : EOwn ps { ew with w := ew.w.set s (some (v.setElem i (movedValues ps e))) } := by
      unfold EOwn
      rw [joint_eq_merge, ← merge_set_even]
      exact WOwn.samePtr h (2 * s) (.refl h.wf) ((joint_even ps ew s).trans hvs) (v.setElem i (movedValues ps e)) rfl rfl _
    exact h1.install hk _ _ _ _ false

theorem EOwn.moveA {ps : List Param} {ew : EWorld} (h : EOwn ps ew) (a b al : Nat) (hb : ew.elems b = none) :
    EOwn ps (ew.elemMoveA ps a b al) := by
  refine elim_cases (EWorld.elemMoveA_eq ..) h fun ea hea =>
    ite_cases (fun _ => h.move a b hb) fun _ => ite_cases (fun _ => h.thrown) fun _ => ?_
  have hab : a ≠ b := fun e => by rw [e, hb] at hea; cases hea
  -- a fresh block for the new element; the source keeps its own
  exact (h.install hb ea.ptr.units al ea.val ea.bytes false).samePtr ((ew.setE_other _ hab).trans hea)
    { ea with val := movedValues ps ea.val } rfl false

theorem EOwn.assign {ps : List Param} {ew : EWorld} (h : EOwn ps ew) (a b : Nat) : EOwn ps (ew.elemAssign ps a b) := by
  rcases lookup_pair_cases ew.elems a b with ht | ⟨ea, eb, hab, hea, heb⟩
  · exact (EWorld.binary_trivial ht h (h.same (.refl _) false)).assign ps
  · refine EWorld.elemAssign_cases hab hea heb ps (fun hf => ?_) (fun _ _ => ?_) (fun _ h1 p1 hr => ?_)
    · -- field-wise: the block stays, the allocator is kept or replaced by an equal one
      refine h.keep heb (.refl _) _ ?_ ?_ false
      · rfl
      have hob := h.owns_elem heb
      cases hpc : ew.w.acfg.pocca with
      | false => exact hob
      | true =>
        refine owns_propagate _ _ _ eb.ptr ea.ptr.alloc hob ?_
        simp only [fieldwiseCopy, hpc, Bool.not_true, Bool.false_or, Bool.and_eq_true] at hf
        exact ACfg.eq_of_ae hf.2 _ _
    · -- the allocation throws: the block stays, the pointer may have taken over an equal allocator
      refine h.keep heb ew.w.heap.same_thrown _ ?_ ?_ true
      · exact eb.ptr.adopt_blk _ _
      · exact Ptr.adopt_owns _ (h.owns_elem heb)
    · -- a `PtrStep` of the owning pointer, taken at the element's name in the joint world
      have st := Ptr.copyAssign_step (h := ew.w.heap) h.wf (h.owns_elem heb) ea.ptr
      rw [hr] at st
      rw [eOwn_setE_done]
      exact WOwn.ptrStep h (2 * b + 1) (joint_elem heb) (ElemSt.toVec ps ⟨ea.val, ea.bytes, p1⟩) rfl false st Heap.Tables.refl

theorem EOwn.moveAssign {ps : List Param} {ew : EWorld} (h : EOwn ps ew) (a b : Nat) : EOwn ps (ew.elemMoveAssign ps a b) := by
  rcases lookup_pair_cases ew.elems a b with ht | ⟨ea, eb, hab, hea, heb⟩
  · exact (EWorld.binary_trivial ht h (h.same (.refl _) false)).moveAssign ps
  · -- both elements are replaced by ones with the same owning pointers
    have same2 : ∀ (x y : ElemSt), x.ptr = eb.ptr → y.ptr = ea.ptr →
        EOwn ps (((ew.setE b (some x)).setE a (some y)).done ew.w.heap false) := fun x y hx hy =>
      (h.samePtr heb x hx false).samePtr ((ew.setE_other _ hab).trans hea) y hy false
    refine EWorld.elemMoveAssign_cases hab hea heb ps (fun hst => ?_) (fun _ _ => same2 _ _ rfl rfl)
      (fun _ _ _ _ => h.thrown) (fun _ _ _ _ => ?_) (fun _ _ _ => same2 _ _ rfl rfl)
    · -- the target returns its block and takes over the source's, with the source's allocator or an equal one
      refine h.transfer hea heb hab _ _ (by rfl) ?_ (by rfl) false
      exact owns_stolen eb.ptr.alloc (h.owns_elem hea) ((stealsAssign_some hea heb).symm.trans hst)
    · -- a fresh block for the target; the source keeps its own
      exact (h.renewBlock heb ea.ptr.units eb.ptr.alloc ea.val ea.bytes false).samePtr ((ew.setE_other _ hab).trans hea)
        { ea with val := movedValues ps ea.val } rfl false

/-- an operation of the interface: on vectors or on standalone elements -/
inductive JOp
  | vec (op : OOp)
  | elem (op : EOp)

def JOp.apply (ps : List Param) (ew : EWorld) : JOp → EWorld
  | .vec op => { ew with w := op.apply ew.w }
  | .elem op => op.apply ps ew

/-- what the interface demands of its caller as far as ownership goes: constructions go to free names, `swap` is called
    with propagating or equal allocators -/
def JOp.Pre (ew : EWorld) : JOp → Prop
  | .vec op => op.Pre ew.w
  | .elem (.fromRef k _ _ _ _) => ew.elems k = none
  | .elem (.copy _ b) => ew.elems b = none
  | .elem (.copyA _ b _) => ew.elems b = none
  | .elem (.move _ b) => ew.elems b = none
  | .elem (.moveA _ b _) => ew.elems b = none
  | .elem (.swap a b) => ∀ ea eb, ew.elems a = some ea → ew.elems b = some eb →
      ew.w.acfg.pocs = true ∨ ew.w.acfg.ae = true ∨ ea.ptr.alloc = eb.ptr.alloc
  | .elem _ => True

theorem EOwn.step {ps : List Param} {ew : EWorld} (h : EOwn ps ew) (op : JOp) (hpre : op.Pre ew) : EOwn ps (op.apply ps ew) := by
  cases op with
  | vec op =>
    show WOwn (joint ps { ew with w := op.apply ew.w })
    rw [joint_eq_merge, ← apply_merge]
    exact WOwn.step h op.ren (OOp.ren_pre (owners ps ew.elems) hpre)
  | elem op =>
    cases op with
    | fromRef k s i al mv => exact h.fromRef k s i al mv hpre
    | copy a b => exact h.copy a b hpre
    | copyA a b al => exact h.copyA a b al hpre
    | move a b => exact h.move a b hpre
    | moveA a b al => exact h.moveA a b al hpre
    | assign a b => exact h.assign a b
    | moveAssign a b => exact h.moveAssign a b
    | swap a b => exact h.swap a b hpre
    | destroy k => exact h.destroy k

def JValid (ps : List Param) : EWorld → List JOp → Prop
  | _, [] => True
  | ew, op :: ops => op.Pre ew ∧ JValid ps (op.apply ps ew) ops

/-- **every history over vectors and elements, allocation failures included**: the ownership discipline holds in every
    reachable state -/
theorem EOwn.history {ps : List Param} {ew : EWorld} (h : EOwn ps ew) (ops : List JOp) (hv : JValid ps ew ops) :
    EOwn ps (ops.foldl (JOp.apply ps) ew) := by
  induction ops generalizing ew with
  | nil => exact h
  | cons op ops ih => exact ih (h.step op hv.1) hv.2

theorem EOwn.init (ps : List Param) (c : ACfg) : EOwn ps ({ w := { acfg := c } } : EWorld) :=
  (WOwn.init c).congr (fun i => show (if i % 2 = 0 then none else none) = none from ite_self none) rfl rfl

/-- every live data block has an owner: a vector (even name of the joint world) or an element (odd name) -/
theorem EOwn.data_owned {ps : List Param} {ew : EWorld} (h : EOwn ps ew) (b : Blk) (hb : b ∈ ew.w.heap.live) (hkind : b.kind = .data) :
    (∃ k v, ew.w.vecs k = some v ∧ v.blk = some b.serial) ∨ (∃ k e, ew.elems k = some e ∧ e.ptr.blk = some b.serial) := by
  obtain ⟨i, x, hx, hbx⟩ := h.noleak b hb hkind
  rcases even_or_odd i with ⟨k, rfl⟩ | ⟨k, rfl⟩
  · exact Or.inl ⟨_, x, (joint_even ps ew _).symm.trans hx, hbx⟩
  · rw [joint_odd] at hx
    obtain ⟨e, he, rfl⟩ := Option.map_eq_some_iff.mp hx
    exact Or.inr ⟨_, e, he, hbx⟩

/-- what `EOwn` says in terms of the `EWorld` itself: the owner at an even name is a vector, at an odd name an element -/
theorem EOwn.unfold {ps : List Param} {ew : EWorld} (h : EOwn ps ew) :
    ew.w.heap.errs = [] ∧ ew.w.heap.WF ∧
    (∀ k v, ew.w.vecs k = some v → Owns ew.w.heap ew.w.acfg v.S v.ptr) ∧
    (∀ k e, ew.elems k = some e → Owns ew.w.heap ew.w.acfg (storageAl ps) e.ptr) ∧
    (∀ b ∈ ew.w.heap.live, b.kind = .data →
      (∃ k v, ew.w.vecs k = some v ∧ v.blk = some b.serial) ∨ (∃ k e, ew.elems k = some e ∧ e.ptr.blk = some b.serial)) ∧
    (∀ k v j e s, ew.w.vecs k = some v → ew.elems j = some e → v.blk = some s → e.ptr.blk ≠ some s) ∧
    (∀ j1 j2 e1 e2 s, ew.elems j1 = some e1 → ew.elems j2 = some e2 → e1.ptr.blk = some s → e2.ptr.blk = some s → j1 = j2) := by
  refine ⟨h.noerr, h.wf, fun k v hk => h.owns (2 * k) v ((joint_even ps ew k).trans hk), fun k e => h.owns_elem,
    h.data_owned, fun k v j e s hk hj hv he => ?_,
    fun j1 j2 e1 e2 s h1 h2 hb1 hb2 => odd_inj.mp (h.excl _ _ _ _ s (joint_elem h1) (joint_elem h2) hb1 hb2)⟩
  -- a vector and an element with one block would be one owner of the joint world: an even name equal to an odd one
  exact even_ne_odd k j (h.excl _ _ v _ s ((joint_even ps ew k).trans hk) (joint_elem hj) hv he)

theorem EOwn.nothing_left {ps : List Param} {ew : EWorld} (h : EOwn ps ew) (hnov : ∀ k, ew.w.vecs k = none)
    (hnoe : ∀ k, ew.elems k = none) : ∀ b ∈ ew.w.heap.live, b.kind = .table := by
  intro b hb
  cases hk : b.kind with
  | table => rfl
  | data =>
    rcases h.data_owned b hb hk with ⟨k, v, hkv, _⟩ | ⟨k, e, hke, _⟩
    · cases (hnov k).symm.trans hkv
    · cases (hnoe k).symm.trans hke

end Cntgs
