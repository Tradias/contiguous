/-
C15 — emplace_back stores `T(source item)` whatever form the source takes.
-/
import Cntgs.Emplace
namespace Cntgs.C15

/-- representations the harness can produce for a source type: in range, and bool holds 0 or 1 -/
def InRange (u : Ty) (v : Nat) : Prop := v < 2 ^ (8 * u.size) ∧ (u = .b1 → v ≤ 1)

theorem toInt_mod (u : Ty) (v : Nat) (hv : v < 2 ^ (8 * u.size)) :
    ((toInt u v) % ((2 ^ (8 * u.size) : Nat) : Int)).toNat = v := by
  -- both readings of `v`, as it is and less the range, are `v` modulo the range
  have h : (v : Int) % ((2 ^ (8 * u.size) : Nat) : Int) = v := Int.emod_eq_of_lt (Int.natCast_nonneg v) (Int.ofNat_lt.mpr hv)
  unfold toInt
  split
  · rw [Int.sub_emod_right, h]; rfl
  · rw [h]; rfl

/-- **memcpy is only chosen when the conversion keeps the representation**: for every pair of types that
    `MEMCPY_COMPATIBLE` accepts, `T(u)` has the bytes of `u` -/
theorem memcpy_sound (t u : Ty) (v : Nat) (h : memcpyCompatible t u = true) (hv : InRange u v) :
    cast t u v = v := by
  -- `h`: equal sizes (`hsz`), both trivially copyable, and (`hk`) the same type, or two integral types of which `t` is not `bool`
  unfold memcpyCompatible at h
  simp only [Bool.and_eq_true, Bool.or_eq_true, beq_iff_eq, bne_iff_ne, ne_eq] at h
  obtain ⟨⟨⟨hsz, _⟩, _⟩, hk⟩ := h
  unfold cast
  by_cases htu : t = u
  · simp [htu]
  · rcases hk with hk | ⟨⟨hti, hui⟩, hnb⟩
    · exact absurd hk htu
    · -- integral to integral, not to `bool`: `cast` reads `v` as an integer and reduces it modulo the range of `t`,
      -- which is the range of `u` (`hsz`)
      have hbeq : (t == u) = false := by simpa using htu
      have hb1 : (t == Ty.b1) = false := by simpa using hnb
      simp only [hbeq, hb1, Bool.false_eq_true, if_false, hti, hui, Bool.true_or, if_true]
      rw [hsz]
      exact toInt_mod u v hv.1

/-- whatever the form of the source, the stored objects are `T(item)`, item by item, and exactly as many
    as the source holds -/
theorem stored_is_converted (f : Form) (t u : Ty) (items : List Nat) (hv : ∀ v ∈ items, InRange u v) :
    stored f t u items = items.map (cast t u) ∧ (stored f t u items).length = items.length := by
  unfold stored
  cases hp : path f t u
  · -- memcpy: only reachable when MEMCPY_COMPATIBLE holds
    have hmc : memcpyCompatible t u = true := by
      cases h : memcpyCompatible t u
      · simp only [path, h, Bool.and_false, Bool.false_eq_true, if_false] at hp
        split at hp <;> split at hp <;> cases hp
      · rfl
    exact ⟨((List.map_congr_left fun v hvm => memcpy_sound t u v hmc (hv v hvm)).trans (List.map_id items)).symm, rfl⟩
  · exact ⟨rfl, by simp⟩
  · exact ⟨rfl, by simp⟩

/-- lvalue sources (containers, arrays, generated ranges, plain iterators) are never moved from -/
theorem lvalue_not_moved (f : Form) (t u : Ty) (h1 : f.rvalue = false) (h2 : f ≠ .moveIt) :
    movesEach f t u = false := by
  -- the two tests that lead to `moveEach` fail; every other leaf of `path` is `memcpy` or `copyEach`
  have h3 : (f == .moveIt) = false := by simpa using h2
  simp only [movesEach, path, h1, h3, Bool.false_eq_true, if_false, apply_ite (· == Path.moveEach)]
  simp

/-- rvalue ranges and move_iterators of a type that is not trivially copyable are moved from, item by item -/
theorem rvalue_moved (f : Form) (t u : Ty) (h : f.rvalue = true ∨ f = .moveIt) (hu : u.trivCopyable = false) :
    path f t u = .moveEach := by
  have hmc : memcpyCompatible t u = false := by unfold memcpyCompatible; simp [hu]
  unfold path
  rcases h with h | h
  · have hr : f.isRange = true := by cases f <;> first | rfl | cases h
    simp [hr, hmc, h]
  · subst h; simp [Form.isRange, Form.isPointer, Form.contiguousIterator, hmc]

/-- two cases in which the bytes must not be copied: `char 2 → bool` is stored as `true`, a trivially copyable wrapper is built by
    its converting constructor; and one in which they are: `int8 → uint8` -/
example : stored .vecL .b1 .c8 [2, 0, 255] = [1, 0, 1] ∧ stored .ptr .w1 .u8 [5] = [6] ∧
    stored .vecL .u8 .i8 [200] = [200] ∧ path .vecL .u8 .i8 = .memcpy := by decide

end Cntgs.C15
