/-
C14 — relational operators are mutually consistent and depend only on content.
The model's comparison functions take the logical content (lists of object values) as their only input;
the correspondence check ties them to the real operators under different junk fillings of the memory.
-/
import Cntgs.CompareProofs
import Cntgs.FastPathProofs
namespace Cntgs.C14

/-- `a > b` is `b < a`, `a <= b` is `!(b < a)`, `a >= b` is `!(a < b)` — references and elements -/
theorem elem_operators (ps : List Param) (a b : Elem) :
    elemGt ps a b = elemLt ps b a ∧ elemLe ps a b = !elemLt ps b a ∧ elemGe ps a b = !elemLt ps a b :=
  ⟨rfl, rfl, rfl⟩

theorem vec_operators (ps : List Param) (fa fb : List Nat) (a b : List Elem) :
    vecGt ps fa fb a b = vecLt ps fb fa b a ∧ vecLe ps fa fb a b = !vecLt ps fb fa b a ∧ vecGe ps fa fb a b = !vecLt ps fa fb a b :=
  ⟨rfl, rfl, rfl⟩

/-- element `<` is irreflexive, asymmetric and transitive for every parameter list (memcmp runs and
    element-wise fields alike) and all contents: it is the conjunction of strict orders, a strict partial order -/
theorem elem_lt_strict (ps : List Param) :
    (∀ a, elemLt ps a a = false) ∧
    (∀ a b, elemLt ps a b = true → elemLt ps b a = false) ∧
    (∀ a b c, elemLt ps a b = true → elemLt ps b c = true → elemLt ps a c = true) :=
  ⟨fun _ => irrefl_of_asymm keysLt_asymm _, fun _ _ => keysLt_asymm _ _, fun _ _ _ => keysLt_trans _ _ _⟩

/-- vector `<` is irreflexive and asymmetric on both code paths -/
theorem vec_lt_irrefl_asymm (ps : List Param) :
    (∀ f a, vecLt ps f f a a = false) ∧ (∀ fa fb a b, vecLt ps fa fb a b = true → vecLt ps fb fa b a = false) := by
  have hasymm : ∀ fa fb a b, vecLt ps fa fb a b = true → vecLt ps fb fa b a = false := by
    intro fa fb a b h
    rw [vecLt_eq_lexBy] at h ⊢
    rw [show (fixedSizesOf ps fb == fixedSizesOf ps fa) = (fixedSizesOf ps fa == fixedSizesOf ps fb) from BEq.comm]
    split at h
    · rw [if_pos ‹_›]; exact lexBy_asymm_of lexLt_swo.asymm _ _ h
    · rw [if_neg ‹_›]; exact lexBy_asymm_of (elem_lt_strict ps).2.1 a b h
  exact ⟨fun f => irrefl_of_asymm (hasymm f f), hasymm⟩

/-- on the whole-buffer (memcmp) path — vectors with the same fixed sizes — vector `<` is moreover transitive (with
    `vecLt_swo_fastpath`: a strict weak order) -/
theorem vec_lt_trans_fastpath (ps : List Param) (f : List Nat)
    (hc : (ps.all (·.ty.lexMemcmp) && isFixedOrPlain ps && storageAl ps == 1) = true) (a b c : List Elem)
    (h1 : vecLt ps f f a b = true) (h2 : vecLt ps f f b c = true) : vecLt ps f f a c = true :=
  (vecLt_swo_fastpath ps f hc).trans h1 h2

/-- **full statement, FALSE for the code as it is**: transitivity of vector `<` on the element-wise path.
    `std::lexicographical_compare` over the strict *partial* element order (all fields must be less) is not
    transitive. Counter-witness on `ContiguousVector<int, int>`, replayed on the real code by the check
    (KNOWN-FINDING KF-C14-vector-lt-intransitive). The repair (a lexicographical element order) is rejected by
    the existing test "ContiguousVector of std::string comparison operators / greater with greater size",
    which requires `[(a,a),(a,a)] > [(b,a)]`. -/
def VecLtTransitive (ps : List Param) : Prop :=
  ∀ fa fb fc a b c, vecLt ps fa fb a b = true → vecLt ps fb fc b c = true → vecLt ps fa fc a c = true

def intInt : List Param := [⟨.plain, 4, 1, { lexMemcmp := false }⟩, ⟨.plain, 4, 1, { lexMemcmp := false }⟩]

theorem vec_lt_not_transitive : ¬ VecLtTransitive intInt := fun h =>
  -- `{(1,5),(1,1)} < {(2,3),(2,2)}` by the second elements (the first are incomparable), `{(2,3),(2,2)} < {(3,4),(0,0)}` by the first;
  -- `(1,5)` and `(3,4)` are incomparable again, and `(0,0) < (1,1)`
  absurd (h [] [] [] [[[1],[5]],[[1],[1]]] [[[2],[3]],[[2],[2]]] [[[3],[4]],[[0],[0]]] (by decide +kernel) (by decide +kernel))
    (by decide +kernel)

/-- on the element-wise path vector `<` is by definition the lexicographical comparison of the element
    sequences under the element `<` -/
theorem vec_lt_is_lexicographical (ps : List Param) (fa fb : List Nat) (a b : List Elem)
    (h : (ps.all (·.ty.lexMemcmp) && isFixedOrPlain ps && storageAl ps == 1) = false ∨
         (fixedSizesOf ps fa == fixedSizesOf ps fb) = false) :
    vecLt ps fa fb a b = lexBy (elemLt ps) a b := by
  rw [vecLt_eq_lexBy, if_neg (by rcases h with h | h <;> simp [h])]

/-- … and on the whole-buffer (memcmp) path it is the same lexicographical comparison: comparing the bytes of the two
    blocks compares the element sequences under the element `<` (`hsz`: all elements have one common size `c`, as they do when they conform to the fixed sizes) -/
theorem vec_lt_fastpath_is_lexicographical (ps : List Param) (fa fb : List Nat) (a b : List Elem) (hne : ps ≠ [])
    (hcond : (ps.all (·.ty.lexMemcmp) && isFixedOrPlain ps && storageAl ps == 1 && fixedSizesOf ps fa == fixedSizesOf ps fb) = true)
    (hal : ∀ p ∈ ps, p.al ≤ 1) (c : Nat) (hc : 0 < c)
    (hsz : ∀ e ∈ a ++ b, (runBytes ps e 0 (ps.length - 1)).length = c) :
    vecLt ps fa fb a b = lexBy (elemLt ps) a b := by
  have hall : ∀ p ∈ ps, p.ty.lexMemcmp = true ∧ p.al ≤ 1 := by
    intro p hp
    -- the first of the four tests of `hcond`
    simp only [Bool.and_eq_true, List.all_eq_true] at hcond
    obtain ⟨⟨⟨hmemcmp, _⟩, _⟩, _⟩ := hcond
    exact ⟨hmemcmp p hp, hal p hp⟩
  obtain ⟨p, ps, rfl⟩ := List.exists_cons_of_ne_nil hne
  -- the element order is the byte order of whole elements (one memcmp run), the buffer is the concatenation of the elements
  unfold vecLt
  rw [if_pos hcond, elemLt_single_run p ps hall, show lexLt (vecBytes (p :: ps) a) (vecBytes (p :: ps) b) = _ from
    lexBy_flatMap _ (runBytes (p :: ps) · 0 ps.length) c hc a b (fun e he => hsz e (List.mem_append_left b he))
      (fun e he => hsz e (List.mem_append_right a he))]
  exact lexBy_guarded _ a b

/-- non-vacuity: `<FixedSize<uint8_t>, uint8_t>` with fixed size 2, elements of 3 bytes -/
example :
    let ps : List Param := [⟨.fixed, 1, 1, {}⟩, ⟨.plain, 1, 1, {}⟩]
    (ps.all (·.ty.lexMemcmp) && isFixedOrPlain ps && storageAl ps == 1 && fixedSizesOf ps [2, 0] == fixedSizesOf ps [2, 0]) = true ∧
    (∀ e ∈ [[[1, 2], [3]], [[1, 2], [4]]] ++ [[[1, 3], [0]]], (runBytes ps e 0 (ps.length - 1)).length = 3) := by
  decide +kernel

/-- the value a signed integer type of `vb` bytes reads from the unsigned representation `v` (two's complement) -/
def toSigned (vb : Nat) (v : Nat) : Int := if v < 2 ^ (8 * vb - 1) then (v : Int) else (v : Int) - 2 ^ (8 * vb)

/-- offset binary: adding half the range `M` modulo `2M` shifts the two's-complement reading of `v` by `M` -/
theorem offset_binary (M v : Nat) (hv : v < 2 * M) :
    (((v + M) % (2 * M) : Nat) : Int) = (if v < M then (v : Int) else (v : Int) - (2 * M : Nat)) + (M : Nat) := by
  split
  · rw [Nat.mod_eq_of_lt (by omega)]; rfl
  · obtain ⟨w, rfl⟩ := Nat.exists_eq_add_of_le (Nat.not_lt.mp ‹_›)
    rw [show M + w + M = w + 2 * M by omega, Nat.add_mod_right, Nat.mod_eq_of_lt (by omega)]
    omega

/-- for a signed type `ordVal` is the offset-binary image of the value: the signed value shifted by half the range -/
theorem ordVal_signed_eq (p : Param) (hs : p.ty.signed = true) (hvb : 0 < p.vb) (v : Nat) (hv : v < 2 ^ (8 * p.vb)) :
    (ordVal p v : Int) = toSigned p.vb v + (2 ^ (8 * p.vb - 1) : Nat) := by
  have hpow : 2 ^ (8 * p.vb) = 2 * 2 ^ (8 * p.vb - 1) := by
    rw [← Nat.pow_succ', Nat.succ_eq_add_one, Nat.sub_add_cancel (Nat.mul_pos (by decide) hvb)]
  rw [ordVal, toSigned, if_pos hs, show ((2 : Int) ^ (8 * p.vb)) = ((2 ^ (8 * p.vb) : Nat) : Int) by simp, hpow]
  exact offset_binary _ v (hpow ▸ hv)

/-- `ordVal` is what the model compares for a signed type: it orders the representations exactly as `<` orders the
    signed values -/
theorem ordVal_signed_is_value_order (p : Param) (hs : p.ty.signed = true) (hvb : 0 < p.vb) (a b : Nat)
    (ha : a < 2 ^ (8 * p.vb)) (hb : b < 2 ^ (8 * p.vb)) :
    ordVal p a < ordVal p b ↔ toSigned p.vb a < toSigned p.vb b := by
  have h1 := ordVal_signed_eq p hs hvb a ha
  have h2 := ordVal_signed_eq p hs hvb b hb
  omega

theorem ordVal_unsigned (p : Param) (hs : p.ty.signed = false) (v : Nat) : ordVal p v = v := by simp [ordVal, hs]

/-- why `signed char` must not be compared by `memcmp`: −56 < 1 as values, 200 > 1 as bytes; the element-wise path decides
    by value -/
example :
    let ps : List Param := [⟨.plain, 1, 1, { lexMemcmp := false, signed := true }⟩]
    vecLt ps [] [] [[[200]]] [[[1]]] = true ∧ lexLt (vecBytes ps [[[200]]]) (vecBytes ps [[[1]]]) = false := by decide +kernel

end Cntgs.C14
