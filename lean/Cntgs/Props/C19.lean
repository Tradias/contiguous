/-
C19 — read-only use from several threads is race-free (PARTIAL).

What Lean carries: every const operation of the interface is a function of the (shared) state that leaves
every shared vector unchanged — the only const operations with an effect, copy construction and element
construction from a const reference, write to a fresh object of the calling thread only
(`schedule_keeps_shared`), and what an operation observes depends on the shared state only
(`obs_depends_on_shared_only`). From these it follows (not stated in Lean) that any interleaving of const
operations of any number of threads yields, per thread, exactly the observations of a sequential run of that
thread alone; no shared location is ever written (a C++ data race needs a write). The premise "the compiled const operations perform no write to the shared vector" is established
on the real code per executed path (vector object, data block and offset table mapped read-only); what the
model cannot exhibit: compiler-introduced writes, the allocator's and the value types' own thread safety.
-/
import Cntgs.Compare
import Cntgs.WorldCases
import Cntgs.ElemProofs
namespace Cntgs.C19

/-- the const operations: queries, element access, comparisons, copying, element construction -/
inductive ConstOp
  | size (k : Nat) | empty (k : Nat) | capacity (k : Nat) | consumption (k : Nat) | dataEnd (k : Nat)
  | get (k i : Nat) | eq (k j : Nat) | lt (k j : Nat)
  | copyTo (k d : Nat)            -- `V copy{v_k}` into the calling thread's private slot d
  deriving DecidableEq, Repr

inductive Obs
  | nat (n : Nat) | bool (b : Bool) | elem (e : Option Elem) | ob (b : Option Bool) | content (l : List (Option Elem)) | none
  deriving DecidableEq, Repr

def absOf (w : World) (k : Nat) : List Elem := ((w.vecs k).map (fun v => v.abs.map (·.getD []))).getD []

/-- what a const operation returns -/
def obs (ps : List Param) (w : World) : ConstOp → Obs
  | .size k => .nat ((w.vecs k).map (·.size) |>.getD 0)
  | .empty k => .bool (((w.vecs k).map (·.size) |>.getD 0) == 0)
  | .capacity k => .nat ((w.vecs k).map (·.cap) |>.getD 0)
  | .consumption k => .nat ((w.vecs k).map (·.bytes) |>.getD 0)
  | .dataEnd k => .nat ((w.vecs k).map (·.dataEnd) |>.getD 0)
  | .get k i => .elem ((w.vecs k).bind (·.get i))
  | .eq k j => .ob (vecEq ps (((w.vecs k).map (·.fs)).getD []) (((w.vecs j).map (·.fs)).getD []) (absOf w k) (absOf w j))
  | .lt k j => .bool (vecLt ps (((w.vecs k).map (·.fs)).getD []) (((w.vecs j).map (·.fs)).getD []) (absOf w k) (absOf w j))
  | .copyTo k d => .content (((w.copy k d).vecs d).map (·.abs) |>.getD [])

/-- the state after a const operation (only copying has an effect, on the private slot and the ledger) -/
def step (w : World) : ConstOp → World
  | .copyTo k d => w.copy k d
  | _ => w

/-- slots that a thread may use as copy targets are private: not among the shared vectors -/
def Private (shared : Nat → Bool) : ConstOp → Prop
  | .copyTo _ d => shared d = false
  | _ => True

/-- copy construction leaves every other vector — in particular its source — untouched -/
theorem copy_leaves_others (w : World) (s d k : Nat) (hk : k ≠ d) : (w.copy s d).vecs k = w.vecs k := by
  rcases w.copy_cases s d with ⟨_, e⟩ | hf | ⟨_, _, _, _, _, _, e⟩
  · rw [e]
  · rw [hf.vecs]
  · rw [e]; exact if_neg hk

/-- no const operation changes a shared vector -/
theorem const_no_write (w : World) (shared : Nat → Bool) (op : ConstOp) (hp : Private shared op)
    (k : Nat) (hk : shared k = true) : (step w op).vecs k = w.vecs k := by
  cases op with
  | copyTo s d => exact copy_leaves_others w s d k (fun h => by rw [h, show shared d = false from hp] at hk; cases hk)
  | _ => rfl

/-- running a whole schedule (any interleaving of the threads' const operations) -/
def runSchedule (ps : List Param) : World → List (Nat × ConstOp) → List (Nat × Obs)
  | _, [] => []
  | w, (t, op) :: rest => (t, obs ps w op) :: runSchedule ps (step w op) rest

/-- the shared part of the state is invariant under any schedule -/
theorem schedule_keeps_shared (ps : List Param) (shared : Nat → Bool) :
    ∀ (sched : List (Nat × ConstOp)) (w : World), (∀ x ∈ sched, Private shared x.2) →
      ∀ k, shared k = true → ((sched.foldl (fun w x => step w x.2) w).vecs k) = w.vecs k := by
  intro sched
  induction sched with
  | nil => intro w _ k _; rfl
  | cons x xs ih =>
    intro w hp k hk
    exact (ih (step w x.2) (fun y hy => hp y (List.mem_cons_of_mem _ hy)) k hk).trans
      (const_no_write w shared x.2 (hp x List.mem_cons_self) k hk)

/-- an observation that only reads shared vectors does not depend on what other threads did before:
    the pure queries give the same result in any state that agrees on the shared vectors -/
theorem obs_depends_on_shared_only (ps : List Param) (w w' : World) (shared : Nat → Bool)
    (hag : ∀ k, shared k = true → w'.vecs k = w.vecs k) (op : ConstOp)
    (hop : match op with
      | .size k | .empty k | .capacity k | .consumption k | .dataEnd k | .get k _ => shared k = true
      | .eq k j | .lt k j => shared k = true ∧ shared j = true
      | .copyTo _ _ => False) :
    obs ps w' op = obs ps w op := by
  cases op with
  | size k | empty k | capacity k | consumption k | dataEnd k | get k _ => simp only [obs, hag k hop]
  | eq k j | lt k j => simp only [obs, absOf, hag k hop.1, hag j hop.2]
  | copyTo _ _ => exact hop.elim


/-- the const operations that involve a ContiguousElement and have an effect at all: copying a const element (plain and
    allocator-extended) and constructing an element from a const reference; `d` is the calling thread's private slot -/
inductive ConstEOp
  | copyElem (a d : Nat) | copyElemAlloc (a d alloc : Nat) | fromConstRef (d s i alloc : Nat)
  deriving DecidableEq, Repr

def estep (ps : List Param) (ew : EWorld) : ConstEOp → EWorld
  | .copyElem a d => ew.elemCopy ps a d
  | .copyElemAlloc a d al => ew.elemCopyA ps a d al
  | .fromConstRef d s i al => ew.elemFromRef ps d s i al false

def ConstEOp.target : ConstEOp → Nat
  | .copyElem _ d => d | .copyElemAlloc _ d _ => d | .fromConstRef d _ _ _ => d

/-- no const element operation changes a shared element (in particular its source: a copy never moves from it) or any
    vector -/
theorem elem_const_no_write (ps : List Param) (ew : EWorld) (shared : Nat → Bool) (op : ConstEOp)
    (hp : shared op.target = false) :
    (∀ k, shared k = true → (estep ps ew op).elems k = ew.elems k) ∧ (estep ps ew op).w.vecs = ew.w.vecs := by
  have hne : ∀ k, shared k = true → k ≠ op.target := fun k hk h => by rw [h, hp] at hk; cases hk
  -- a const operation is a construction: it writes its target only, and no vector (`EOp.outcome`)
  have key : ∀ o : EOp, o.writes = (· = op.target) → (∀ k s i al, o ≠ .fromRef k s i al true) →
      (∀ k, shared k = true → (o.apply ps ew).elems k = ew.elems k) ∧ (o.apply ps ew).w.vecs = ew.w.vecs :=
    fun o hw hv => ⟨fun k hk => o.elems_kept ps ew fun h => hne k hk ((congrFun hw k).mp h), o.vecs_kept ps ew hv⟩
  cases op with
  | copyElem a d => exact key (.copy a d) rfl nofun
  | copyElemAlloc a d al => exact key (.copyA a d al) rfl nofun
  | fromConstRef d s i al => exact key (.fromRef d s i al false) rfl nofun

/-- the shared elements and all vectors are invariant under any schedule of const element operations -/
theorem elem_schedule_keeps_shared (ps : List Param) (shared : Nat → Bool) :
    ∀ (sched : List (Nat × ConstEOp)) (ew : EWorld), (∀ x ∈ sched, shared x.2.target = false) →
      (∀ k, shared k = true → (sched.foldl (fun ew x => estep ps ew x.2) ew).elems k = ew.elems k) ∧
      (sched.foldl (fun ew x => estep ps ew x.2) ew).w.vecs = ew.w.vecs := by
  intro sched
  induction sched with
  | nil => intro ew _; exact ⟨fun _ _ => rfl, rfl⟩
  | cons x xs ih =>
    intro ew hp
    obtain ⟨h1, h2⟩ := ih (estep ps ew x.2) (fun y hy => hp y (List.mem_cons_of_mem _ hy))
    obtain ⟨g1, g2⟩ := elem_const_no_write ps ew shared x.2 (hp x List.mem_cons_self)
    exact ⟨fun k hk => (h1 k hk).trans (g1 k hk), h2.trans g2⟩

end Cntgs.C19
