/-
C13 — equality means equal logical content, nothing else.

The model's `elemEq`/`vecEq` take the logical content as their only input: with the memcmp runs split at
parameters that can be preceded by padding and the whole-buffer path taken only for storage alignment 1, no
padding byte, spare capacity, allocator or former content of the memory can reach a comparison; the correspondence run checks exactly that on the real operators with junk-filled blocks.
-/
import Cntgs.EqProofs
import Cntgs.FastPathProofs
namespace Cntgs.C13

/-- `!=` is the negation of `==` (`reference.hpp:151-163`, `vector.hpp:307-313`, `element.hpp:159-170`) -/
def elemNe (ps : List Param) (a b : Elem) : Option Bool := (elemEq ps a b).map (!·)

theorem ne_is_negation (ps : List Param) (a b : Elem) (r : Bool) (h : elemEq ps a b = some r) :
    elemNe ps a b = some (!r) := by simp [elemNe, h]

/-- element-wise path: references/elements are equal exactly when they hold equal field values, given
    equal field sizes (which is the property's own reading of "same content") -/
theorem elem_eq_iff_content_generic (ps : List Param) (a b : Elem)
    (hno : ∀ p ∈ ps, p.ty.eqMemcmp = false) (ha : a.length = ps.length) (hb : b.length = ps.length)
    (hc : elemCounts a = elemCounts b) : elemEq ps a b = some true ↔ a = b :=
  -- no field is compared through its bytes (`hno`), so the demand that such fields fit their types is vacuous
  have hfit : ∀ e, FitsMemcmp ps e := fun _ m hm p _ hp => by
    have hp_memcmp : p.ty.eqMemcmp = true := by rwa [predAt, hp] at hm
    cases (hno p (List.mem_of_getElem? hp)).symm.trans hp_memcmp
  elemEq_iff_of ps a b ha hb hc (hfit a) (hfit b)

/-- reflexive on the element-wise path -/
theorem elem_eq_refl_generic (ps : List Param) (a : Elem) (hno : ∀ p ∈ ps, p.ty.eqMemcmp = false)
    (ha : a.length = ps.length) : elemEq ps a a = some true :=
  (elem_eq_iff_content_generic ps a a hno ha ha rfl).mpr rfl

/-- symmetric on the element-wise path -/
theorem elem_eq_symm_generic (ps : List Param) (a b : Elem)
    (hno : ∀ p ∈ ps, p.ty.eqMemcmp = false) (ha : a.length = ps.length) (hb : b.length = ps.length)
    (hc : elemCounts a = elemCounts b) (h : elemEq ps a b = some true) : elemEq ps b a = some true :=
  (elem_eq_iff_content_generic ps b a hno hb ha hc.symm).mpr ((elem_eq_iff_content_generic ps a b hno ha hb hc).mp h).symm

/-- **every parameter list** (memcmp runs and element-wise fields alike): references/elements with equal field sizes are
    equal exactly when they hold equal field values.  `InRange`: the values fit their types (what the C++ types
    guarantee; it makes the object representation injective). -/
theorem elem_eq_iff_content (ps : List Param) (a b : Elem) (ha : a.length = ps.length) (hb : b.length = ps.length)
    (hc : elemCounts a = elemCounts b) (hra : InRange ps a) (hrb : InRange ps b) :
    elemEq ps a b = some true ↔ a = b :=
  elemEq_iff_of ps a b ha hb hc hra.fitsMemcmp hrb.fitsMemcmp

/-- FixedSize fields of different sizes are never equal, in either direction, whatever the values -/
theorem elem_eq_false_if_fixed_sizes_differ (ps : List Param) (a b : Elem) (h : fixedSizesEq ps a b = false) :
    elemEq ps a b = some false ∧ elemEq ps b a = some false :=
  ⟨elemEq_fixed_size_differs ps a b h, elemEq_fixed_size_differs ps b a (by rw [fixedSizesEq_symm]; exact h)⟩

/-- reflexive and symmetric for every parameter list -/
theorem elem_eq_refl (ps : List Param) (a : Elem) (ha : a.length = ps.length) (hra : InRange ps a) : elemEq ps a a = some true :=
  (elem_eq_iff_content ps a a ha ha rfl hra hra).mpr rfl

theorem elem_eq_symm (ps : List Param) (a b : Elem) (ha : a.length = ps.length) (hb : b.length = ps.length)
    (hc : elemCounts a = elemCounts b) (hra : InRange ps a) (hrb : InRange ps b) (h : elemEq ps a b = some true) :
    elemEq ps b a = some true :=
  (elem_eq_iff_content ps b a hb ha hc.symm hrb hra).mpr ((elem_eq_iff_content ps a b ha hb hc hra hrb).mp h).symm

/-- memcmp over a run of consecutive memcmp-able fields decides exactly the field-wise equality over that run: no byte
    other than the object representations of those fields takes part (the model's run holds no padding: `runsGo` with
    BreakAtPadding starts a new run at every parameter that can be preceded by padding; no theorem states this, the
    example on `<u8, AlignAs<u32,4>>` below and the correspondence run show it) -/
theorem memcmp_run_is_fieldwise (ps : List Param) (a b : Elem) (k last : Nat) (ha : a.length = ps.length) (hb : b.length = ps.length)
    (hc : elemCounts a = elemCounts b) (hra : InRange ps a) (hrb : InRange ps b) (hk : k ≤ last) (hlast : last < ps.length) :
    runBytes ps a k last = runBytes ps b k last ↔ ∀ m (h1 : m < a.length) (h2 : m < b.length), k ≤ m → m ≤ last → a[m] = b[m] :=
  runBytes_eq_iff ps a b k last ha hb hc hra hrb hk hlast

/-- vectors on the element-wise path: equal exactly when they hold the same number of elements with equal field sizes
    and equal field values -/
theorem vec_eq_iff_content_elementwise (ps : List Param) (fa fb : List Nat) (a b : List Elem)
    (hgen : (ps.all (·.ty.eqMemcmp) && storageAl ps == 1) = false)
    (hwa : ∀ e ∈ a, e.length = ps.length ∧ InRange ps e) (hwb : ∀ e ∈ b, e.length = ps.length ∧ InRange ps e)
    (hshape : a.map elemCounts = b.map elemCounts) :
    vecEq ps fa fb a b = some true ↔ a = b :=
  vecEq_iff ps fa fb a b (fun h => by rw [hgen] at h; cases h) hwa hwb hshape

/-- vectors on the whole-buffer (memcmp) path, built with the same fixed sizes: equal exactly when they hold the same
    number of elements with equal field sizes and equal field values -/
theorem vec_eq_iff_content_fastpath (ps : List Param) (fa fb : List Nat) (a b : List Elem) (hne : ps ≠ [])
    (hgen : (ps.all (·.ty.eqMemcmp) && storageAl ps == 1) = true) (hf : fixedSizesOf ps fa = fixedSizesOf ps fb)
    (hwa : ∀ e ∈ a, e.length = ps.length ∧ InRange ps e) (hwb : ∀ e ∈ b, e.length = ps.length ∧ InRange ps e)
    (hshape : a.map elemCounts = b.map elemCounts) :
    vecEq ps fa fb a b = some true ↔ a = b :=
  vecEq_iff ps fa fb a b (fun _ => hf) hwa hwb hshape

/-- whole-buffer path: vectors built with different fixed sizes are never equal unless one is empty — the bytes alone do
    not decide (the witness below holds the same bytes on both sides) -/
theorem vec_eq_fastpath_needs_equal_fixed_sizes (ps : List Param) (fa fb : List Nat) (a b : List Elem)
    (hgen : (ps.all (·.ty.eqMemcmp) && storageAl ps == 1) = true) (ha : a ≠ []) (hb : b ≠ [])
    (hf : (fixedSizesOf ps fa == fixedSizesOf ps fb) = false) : vecEq ps fa fb a b = some false := by
  unfold vecEq
  cases a with
  | nil => exact absurd rfl ha
  | cons x xs =>
    cases b with
    | nil => exact absurd rfl hb
    | cons y ys => simp [hgen, hf]

/-- the witness: `FixedSize<uint8_t>`, `{(1,2)}` with fixed size 2 against `{(1),(2)}` with fixed
    size 1 hold the same bytes and are not equal -/
example : vecEq [⟨.fixed, 1, 1, {}⟩] [2] [1] [[[1, 2]]] [[[1]], [[2]]] = some false := by decide +kernel

/-- vectors of different sizes are never equal on the element-wise path (a three-iterator
    `std::equal` would make a vector equal to every longer vector it is a prefix of) -/
theorem vec_eq_needs_equal_size (ps : List Param) (fa fb : List Nat) (a b : List Elem)
    (hgen : (ps.all (·.ty.eqMemcmp) && storageAl ps == 1) = false) (hl : a.length ≠ b.length) :
    vecEq ps fa fb a b = some false := by
  unfold vecEq
  simp [hgen, hl]

/-- an empty vector equals exactly the empty vectors, on either path (the second disjunct adds nothing to the first) -/
theorem vec_eq_empty (ps : List Param) (fa fb : List Nat) (b : List Elem) :
    vecEq ps fa fb [] b = some true ↔ b = [] ∨ ((ps.all (·.ty.eqMemcmp) && storageAl ps == 1) = false ∧ b.length = 0) := by
  unfold vecEq
  cases (ps.all (·.ty.eqMemcmp) && storageAl ps == 1) <;> cases b <;> simp [allEq]

/-- memcmp runs: the run table never lets a run extend over a parameter that can be preceded by padding — witness on
    `<u8, AlignAs<u32,4>>`, whose padding bytes would otherwise take part -/
example : eqTable [⟨.plain, 1, 1, {}⟩, ⟨.plain, 4, 4, { lexMemcmp := false }⟩] = [.upto 0, .upto 1] := by decide +kernel

/-- non-vacuity + the prefix witness: `{(1,2)}` vs `{(1,2),(3,4)}` on a list with a non-memcmp type -/
example :
    let ps : List Param := [⟨.plain, 4, 1, { lexMemcmp := false }⟩, ⟨.plain, 4, 1, { eqMemcmp := false, lexMemcmp := false }⟩]
    vecEq ps [] [] [[[1],[2]]] [[[1],[2]],[[3],[4]]] = some false ∧ vecEq ps [] [] [[[1],[2]]] [[[1],[2]]] = some true := by decide +kernel

end Cntgs.C13
