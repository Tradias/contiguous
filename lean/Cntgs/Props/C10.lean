/-
C10 — reserve only ever adds room and never changes contents.
-/
import Cntgs.FixProofs
import Cntgs.Props.C01
namespace Cntgs.C10

/-- `reserve(n, b)` with `n ≤ capacity()` does nothing at all (the whole state, bookkeeping included, is unchanged) -/
theorem within_capacity_is_noop (v : Vec) (n b : Nat) (junk : Nat → Nat) (h : n ≤ v.cap) : v.reserve n b junk = v :=
  reserve_noop v n b junk h

/-- capacity never shrinks, and is exactly `n` after a reserve beyond the capacity -/
theorem capacity_after (v : Vec) (n b : Nat) (junk : Nat → Nat) :
    v.cap ≤ (v.reserve n b junk).cap ∧ (v.cap < n → (v.reserve n b junk).cap = n) ∧ (v.reserve n b junk).cap = max v.cap n := by
  have := C01.apply_cap junk v (.reserve n b)
  simp only [VOp.apply, C01.capSpec] at this
  rw [this]
  exact ⟨Nat.le_max_left _ _, fun h => Nat.max_eq_right (Nat.le_of_lt h), rfl⟩

theorem keeps_fixed_sizes (v : Vec) (n b : Nat) (junk : Nat → Nat) :
    (v.reserve n b junk).fs = v.fs ∧ (v.reserve n b junk).ps = v.ps :=
  have ⟨hps, hfs, _⟩ := reserve_frame v n b junk
  ⟨hfs, hps⟩

/-- size and every stored value are unchanged, whatever the fill level (offset-table locator; the bookkeeping sized by
    the old capacity is irrelevant: only the `size()` live slots are carried over, the rest is fresh junk) -/
theorem keeps_contents_offset_table {v : Vec} {es : List Elem} (h : VarInv v es) (n b : Nat) (junk : Nat → Nat) :
    (v.reserve n b junk).abs = v.abs ∧ (v.reserve n b junk).size = v.size ∧ VarInv (v.reserve n b junk) es :=
  ⟨by rw [(h.reserve n b junk).abs_eq, h.abs_eq], (reserve_obs v n b junk).1, h.reserve n b junk⟩

/-- the same for the stride locator -/
theorem keeps_contents_stride {v : Vec} {es : List Elem} (h : FixInv v es) (n b : Nat) (junk : Nat → Nat) :
    (v.reserve n b junk).abs = v.abs ∧ (v.reserve n b junk).size = v.size ∧ FixInv (v.reserve n b junk) es :=
  ⟨by rw [(h.reserve n b junk).abs_eq, h.abs_eq], (reserve_obs v n b junk).1, h.reserve n b junk⟩

/-- repeated reserves: any number of reserves in a row keep the contents and end with the largest capacity asked for -/
theorem repeated (v : Vec) (es : List Elem) (h : VarInv v es) (junk : Nat → Nat) (rs : List (Nat × Nat)) :
    VarInv (rs.foldl (fun w r => w.reserve r.1 r.2 junk) v) es ∧
    (rs.foldl (fun w r => w.reserve r.1 r.2 junk) v).cap = rs.foldl (fun c r => max c r.1) v.cap := by
  induction rs generalizing v with
  | nil => exact ⟨h, rfl⟩
  | cons r rs ih =>
    simp only [List.foldl_cons]
    have := ih (v.reserve r.1 r.2 junk) (h.reserve r.1 r.2 junk)
    rw [(capacity_after v r.1 r.2 junk).2.2] at this
    exact this

end Cntgs.C10
