/-
C06 — every stored object is constructed once, destroyed once, never clobbered alive.

The block model `Mem` is the set of *live* element records (offset, extent, values): `write` is construction (anything
it intersects is clobbered: `hits`), `drop` is destruction, `move` is `memmove`; `Vec.poison` is raised by every operation
that constructs on top of a live record, relocates from a dead one, or moves bytes over a live record that is not itself
moved.  The invariants `VarInv` / `FixInv` say that the live records are *exactly* the logically held elements, pairwise
disjoint, and that `poison` was never raised.

For value types on the `memmove` path this holds for every history (`_partial`); for all value types it holds on the stride
locator, and on the offset-table locator for histories in which no erase relocates an element over its own storage
(`history_no_overlap`; `history_no_relocation`, every erase ending at the end, is a special case up to empty erases).  Beyond that the
element-wise path is false for the offset-table locator: `overlap_counter_witness` (known finding
KF-C06-overlapping-elementwise-relocation).
-/
import Cntgs.FixProofs
import Cntgs.VarRelocProofs
import Cntgs.Dec
import Cntgs.WorldCases
import Cntgs.Props.C01
namespace Cntgs.C06

/-- live objects = logically held objects, no two overlap, nothing was ever clobbered -/
structure Lifetimes (v : Vec) (es : List Elem) (rec : Nat → Rec) : Prop where
  live_exact : ∀ r, r ∈ v.mem ↔ ∃ k, k < es.length ∧ r = rec k
  values : ∀ k, k < es.length → (rec k).e = es.getD k []
  disjoint : ∀ k, k + 1 < es.length → (rec k).off + (rec k).sz ≤ (rec (k + 1)).off
  nonempty : ∀ k, k < es.length → 0 < (rec k).sz
  never_clobbered : v.poison = false

theorem lifetimes_offset_table {v : Vec} {es : List Elem} (h : VarInv v es) : Lifetimes v es (canonRec v.ps es) :=
  -- the records of the slot picture are in order and none is empty (`SlotsOK.ordered`); here they are the canonical records
  have ⟨hnonempty, hdisjoint⟩ : Ordered es.length (canonRec v.ps es) := canonRec_eq_slotRec h.notFixed es ▸ h.canon.ordered
  { live_exact := h.mem_eq, values := fun _ _ => rfl, disjoint := hdisjoint, nonempty := hnonempty, never_clobbered := h.clean }

theorem lifetimes_stride {v : Vec} {es : List Elem} (h : FixInv v es) : Lifetimes v es (fixRec v.ps v.loc.stride es) :=
  -- … and here the records at the multiples of the stride
  have ⟨hnonempty, hdisjoint⟩ : Ordered es.length (fixRec v.ps v.loc.stride es) :=
    h.canon.ordered.congr (fun k hk => ((fix_eqs h.isFixed es).2 k hk).symm)
  { live_exact := h.mem_eq, values := fun _ _ => rfl, disjoint := hdisjoint, nonempty := hnonempty, never_clobbered := h.clean }

/-- every history over `memmove`-relocatable value types (offset-table locator) -/
theorem history_offset_table_partial (ps : List Param) (fs : List Nat) (cap bytes : Nat) (junk : Nat → Nat)
    (hl : ListOK ps) (hnf : isFixedOrPlain ps = false) (ht : (Vec.new ps fs cap bytes junk).trivialReloc = true)
    (ops : List VOp) (hv : Valid ps [] ops) :
    let v := ops.foldl (VOp.apply junk) (Vec.new ps fs cap bytes junk)
    Lifetimes v (ops.foldl VOp.spec []) (canonRec v.ps (ops.foldl VOp.spec [])) :=
  lifetimes_offset_table ((VarInv.new ps fs cap bytes junk hl hnf).history ht junk ops hv)

/-- every history, **all value types**, on the stride locator (lists without VaryingSize): element-wise relocation moves
    by whole strides, so source and target never overlap and every target slot was vacated before -/
theorem history_stride (ps : List Param) (fs : List Nat) (cap bytes : Nat) (junk : Nat → Nat)
    (hl : ListOK ps) (hf : isFixedOrPlain ps = true) (hlf : ps.length ≤ fs.length)
    (ops : List VOp) (hv : C01.ValidFixed ps fs [] ops) :
    let v := ops.foldl (VOp.apply junk) (Vec.new ps fs cap bytes junk)
    Lifetimes v (ops.foldl VOp.spec []) (fixRec v.ps v.loc.stride (ops.foldl VOp.spec [])) :=
  lifetimes_stride ((FixInv.new ps fs cap bytes junk hl hf hlf).history_all junk ops
    (C01.validFix_of_counts ps fs hl hf hlf ops [] hv))

/-- **all value types** (std::string, unique_ptr, …): every history whose erases end at the end of the vector
    (emplace_back, pop_back, clear, reserve, erase of a tail) -/
theorem history_no_relocation (ps : List Param) (fs : List Nat) (cap bytes : Nat) (junk : Nat → Nat)
    (hl : ListOK ps) (hnf : isFixedOrPlain ps = false) (ops : List VOp) (hv : ValidNoReloc ps [] ops) :
    let v := ops.foldl (VOp.apply junk) (Vec.new ps fs cap bytes junk)
    Lifetimes v (ops.foldl VOp.spec []) (canonRec v.ps (ops.foldl VOp.spec [])) :=
  lifetimes_offset_table ((VarInv.new ps fs cap bytes junk hl hnf).history_noreloc junk ops hv)

/-- **all value types**, offset-table locator: every history in which no erase relocates an element over its own
    storage; `overlap_counter_witness` below shows that the condition cannot be dropped -/
theorem history_no_overlap (ps : List Param) (fs : List Nat) (cap bytes : Nat) (junk : Nat → Nat)
    (hl : ListOK ps) (hnf : isFixedOrPlain ps = false) (ops : List VOp) (hv : ValidNoOverlap ps [] ops) :
    let v := ops.foldl (VOp.apply junk) (Vec.new ps fs cap bytes junk)
    Lifetimes v (ops.foldl VOp.spec []) (canonRec v.ps (ops.foldl VOp.spec [])) :=
  lifetimes_offset_table ((VarInv.new ps fs cap bytes junk hl hnf).history_all junk ops hv)

/-- erase destroys exactly the erased elements: afterwards the live records are those of the remaining elements -/
theorem erase_destroys_exactly {v : Vec} {es : List Elem} (h : VarInv v es) (ht : v.trivialReloc = true) (i j : Nat)
    (hij : i ≤ j) (hj : j ≤ es.length) :
    Lifetimes (v.eraseRange i j) (es.take i ++ es.drop j) (canonRec (v.eraseRange i j).ps (es.take i ++ es.drop j)) :=
  lifetimes_offset_table (h.step (fun _ => 0) (.eraseRange i j) ⟨hij, hj, fun _ _ => Or.inl (by rw [ht]; rfl)⟩)

def stringTy : TyFlags := ⟨false, false, false, false, false, false, false, false, false⟩
def witnessPs : List Param := [⟨.plain, 4, 4, {}⟩, ⟨.varying, 32, 8, stringTy⟩]
def witnessOps : List VOp := [.emplace [[1], [5]], .emplace [[3], [6, 7, 8]], .erase 0]

/-- The element-wise relocation path of the offset-table locator does **not** have the property: erasing a small
    element in front of a larger non-trivial one move-constructs the larger one onto storage that still holds its own
    live source objects.  (`uint32` count, `VaryingSize<std::string>`; 32-byte strings; elements with 1 and 3 strings.) -/
theorem overlap_counter_witness :
    Valid witnessPs [] witnessOps ∧
    (witnessOps.foldl (VOp.apply (fun _ => 0)) (Vec.new witnessPs [0, 0] 2 200 (fun _ => 0))).poison = true := by
  constructor
  · simp only [witnessOps, Valid, VOp.Pre, VOp.spec, EOK, esz, elemCounts]
    decide +kernel
  · decide +kernel

/-- the witness history is excluded by the no-overlap condition, and an erase in front of an element of the same size
    (the situation the existing tests cover) meets it -/
example : ¬ ValidNoOverlap witnessPs [] witnessOps := by
  simp only [witnessOps, ValidNoOverlap, VOp.Pre, VOp.NoOverlap, VOp.spec, EOK, esz, elemCounts]
  decide +kernel

example : ValidNoOverlap witnessPs [] [.emplace [[1], [5]], .emplace [[1], [6]], .erase 0] := by
  simp only [ValidNoOverlap, VOp.Pre, VOp.NoOverlap, VOp.spec, EOK, esz, elemCounts]
  decide +kernel

/-- ownership moves with the block: a moved-from vector holds no live object, so nothing is destroyed twice -/
theorem moved_from_holds_nothing (v : Vec) : v.movedFrom.mem = [] ∧ v.movedFrom.size = 0 :=
  ⟨rfl, movedFrom_size v⟩

end Cntgs.C06
