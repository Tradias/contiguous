/-
C07 — all memory comes from the allocator and is returned to it exactly once.
Pointer-level theorems (every vector and element reaches the ledger for its data block only through `Ptr`; offset
tables come from `allocTable`), plus the
world-level statement with its counter-witness for the offset table (known finding).
-/
import Cntgs.ElemOwnProofs
namespace Cntgs.C07

/-- every block is obtained from the allocator with the recorded size; the new pointer owns it -/
theorem allocation_recorded (h : Heap) (hw : h.WF) (c : ACfg) (units unit a : Nat) (h' : Heap) (p : Ptr)
    (hm : Ptr.make h units unit a = (h', some p)) :
    Owns h' c unit p ∧ h'.WF ∧ h'.errs = h.errs ∧ p.alloc = a ∧ p.units = units := by
  rw [make_eq] at hm
  split at hm <;> cases hm
  have hf := h.fresh_grown hw c units unit a
  exact ⟨hf.owns, hf.wf, hf.errs, rfl, rfl⟩

/-- a block is returned with the size it was requested with, through an allocator equal to the one that
    allocated it, and exactly once: deallocation raises no ledger error (no double free, wrong size or
    foreign allocator) and removes exactly that block -/
theorem release_exact (h : Heap) (hw : h.WF) (c : ACfg) (unit : Nat) (p : Ptr) (ho : Owns h c unit p) :
    (p.dealloc h c unit).errs = h.errs ∧ (p.dealloc h c unit).WF ∧
    (∀ b, b ∈ (p.dealloc h c unit).live ↔ b ∈ h.live ∧ some b.serial ≠ p.blk) :=
  dealloc_owned hw ho

/-- reallocation on grow / assignment: new block owned, old block returned correctly, or nothing changed -/
theorem reallocation_clean (h : Heap) (hw : h.WF) (c : ACfg) (unit newAlloc units : Nat) (p : Ptr) (hp : Owns h c unit p) :
    let r := p.reallocate h c unit newAlloc units
    (r.2.2 = true ∧ r.1.errs = h.errs ∧ r.1.WF ∧ Owns r.1 c unit r.2.1 ∧ r.2.1.alloc = newAlloc ∧ r.2.1.units = units) ∨
    (r.2.2 = false ∧ r.1.errs = h.errs ∧ r.1.live = h.live ∧ r.2.1 = p) := by
  have st := (Ptr.reallocate_step hw hp newAlloc units).sound hw
  rw [reallocate_eq] at st ⊢
  by_cases hf : h.fail = some 0
  · rw [if_pos hf]; exact Or.inr ⟨rfl, rfl, rfl, rfl⟩
  · rw [if_neg hf] at st ⊢
    obtain ⟨hwf', herrs, howns⟩ := st
    exact Or.inl ⟨rfl, herrs, hwf', howns, rfl, rfl⟩

/-- copy and move assignment never produce a ledger error, for every combination of the propagation traits,
    `is_always_equal`, equal and unequal allocators, target smaller or larger -/
theorem assignment_clean (h : Heap) (hw : h.WF) (c : ACfg) (unit : Nat) (p o : Ptr) (hp : Owns h c unit p) :
    (p.copyAssign h c unit o).1.errs = h.errs ∧ (p.moveAssign h c unit o).1.errs = h.errs :=
  ⟨(copyAssign_spec h hw c unit p o hp).1, (dealloc_owned hw hp).1⟩

/-- destruction returns the data block of a vector: no data block of it remains -/
theorem destroy_returns_data_block (w : World) (k : Nat) (v : Vec) (hv : w.vecs k = some v) (hw : w.heap.WF)
    (ho : Owns w.heap w.acfg v.S v.ptr) :
    (w.destroy k).heap.errs = w.heap.errs ∧ ∀ b ∈ (w.destroy k).heap.live, some b.serial ≠ v.blk := by
  rw [World.destroy_some hv]
  obtain ⟨herrs, _, hlive⟩ := dealloc_owned hw ho
  exact ⟨herrs, fun b hb => ((hlive b).mp hb).2⟩

/-- **full statement (false for the code as it is)**: after all containers are destroyed nothing remains
    allocated. Counter-witness: one vector with a VaryingSize parameter, constructed and destroyed — its
    offset table stays allocated (known finding KF-C07-offset-table-leak; replayed on the real code by the
    check, which prints it as KNOWN-FINDING). `no_leak_partial` is what holds: no *data* block remains. -/
def NoLeak (w : World) : Prop := w.heap.live = []

def witnessList : List Param := [⟨.plain, 4, 1, {}⟩, ⟨.varying, 4, 1, {}⟩]

theorem no_leak_counter_witness : ¬ NoLeak ((({} : World).new 0 witnessList [0, 0] 2 16 1).destroy 0) := by
  unfold NoLeak
  decide +kernel

theorem no_leak_partial (w : World) (k : Nat) (v : Vec) (hv : w.vecs k = some v) (hw : w.heap.WF)
    (ho : Owns w.heap w.acfg v.S v.ptr) (honly : ∀ b ∈ w.heap.live, b.kind = .data → some b.serial = v.blk) :
    ∀ b ∈ (w.destroy k).heap.live, b.kind ≠ .data := by
  intro b hb hk
  rw [World.destroy_some hv] at hb
  obtain ⟨_, _, hlive⟩ := dealloc_owned hw ho
  obtain ⟨hwas, hother⟩ := (hlive b).mp hb     -- `b` was live before and is not the vector's block
  exact hother (honly b hwas hk)

/-- **the property for the data blocks, on whole histories**: starting from nothing, after ANY history of constructions,
    in-place operations, reserves, copy/move constructions, copy/move assignments, swaps and destructions over any number
    of vectors — whichever allocations throw — the ledger has recorded no double free, no free with a wrong size and no
    free through an unequal allocator; every live data block is owned by exactly one vector; once every vector is
    destroyed no data block is live.  (What stays live then are offset tables: `no_leak_counter_witness`, known finding.) -/
theorem data_blocks_returned_exactly_once (c : ACfg) (ops : List OOp) (hv : OValid ({ acfg := c } : World) ops) :
    let w := ops.foldl OOp.apply ({ acfg := c } : World)
    w.heap.errs = [] ∧
    (∀ b ∈ w.heap.live, b.kind = .data → ∃ k v, w.vecs k = some v ∧ v.blk = some b.serial) ∧
    ((∀ k, w.vecs k = none) → ∀ b ∈ w.heap.live, b.kind = .table) := by
  intro w
  have h := (WOwn.init c).history ops hv
  refine ⟨h.noerr, h.noleak, fun hnone b hb => ?_⟩
  cases hk : b.kind with
  | table => rfl
  | data =>
    obtain ⟨k, v, hkv, _⟩ := h.noleak b hb hk
    rw [hnone k] at hkv
    cases hkv

/-- in every reachable state every vector owns a live block of exactly its recorded size from an allocator equal to its
    own, and no block has two owners -/
theorem ownership_invariant (c : ACfg) (ops : List OOp) (hv : OValid ({ acfg := c } : World) ops) :
    WOwn (ops.foldl OOp.apply ({ acfg := c } : World)) :=
  (WOwn.init c).history ops hv


/-- **vectors and standalone elements together, on whole histories**: starting from nothing, after ANY history that mixes
    the operations on vectors with the constructions (from references, copies, allocator-extended copies and moves), both
    assignments on all their branches, swaps and destructions of ContiguousElements — whichever allocations throw — no
    ledger error has occurred (no double free, no free with a wrong size, no free through an unequal allocator); every
    vector and every element owns a live block of exactly its recorded size from an allocator equal to its own; every live
    data block is owned by a vector or by an element, and no block has two owners. -/
theorem vectors_and_elements_ownership (ps : List Param) (c : ACfg) (ops : List JOp)
    (hv : JValid ps ({ w := { acfg := c } } : EWorld) ops) :
    let ew := ops.foldl (JOp.apply ps) ({ w := { acfg := c } } : EWorld)
    ew.w.heap.errs = [] ∧ ew.w.heap.WF ∧
    (∀ k v, ew.w.vecs k = some v → Owns ew.w.heap ew.w.acfg v.S v.ptr) ∧
    (∀ k e, ew.elems k = some e → Owns ew.w.heap ew.w.acfg (storageAl ps) e.ptr) ∧
    (∀ b ∈ ew.w.heap.live, b.kind = .data →
      (∃ k v, ew.w.vecs k = some v ∧ v.blk = some b.serial) ∨ (∃ k e, ew.elems k = some e ∧ e.ptr.blk = some b.serial)) ∧
    (∀ k v j e s, ew.w.vecs k = some v → ew.elems j = some e → v.blk = some s → e.ptr.blk ≠ some s) ∧
    (∀ j1 j2 e1 e2 s, ew.elems j1 = some e1 → ew.elems j2 = some e2 → e1.ptr.blk = some s → e2.ptr.blk = some s → j1 = j2) :=
  ((EOwn.init ps c).history ops hv).unfold

/-- … and once every vector and every element has been destroyed, no data block is live -/
theorem nothing_left_behind (ps : List Param) (c : ACfg) (ops : List JOp)
    (hv : JValid ps ({ w := { acfg := c } } : EWorld) ops)
    (hnov : ∀ k, (ops.foldl (JOp.apply ps) ({ w := { acfg := c } } : EWorld)).w.vecs k = none)
    (hnoe : ∀ k, (ops.foldl (JOp.apply ps) ({ w := { acfg := c } } : EWorld)).elems k = none) :
    ∀ b ∈ (ops.foldl (JOp.apply ps) ({ w := { acfg := c } } : EWorld)).w.heap.live, b.kind = .table :=
  ((EOwn.init ps c).history ops hv).nothing_left hnov hnoe

/-- non-vacuity: a vector, an element constructed from it, a copy of the element with another allocator, an assignment
    and the destructions form a valid mixed history -/
example :
    let ps : List Param := [⟨.plain, 4, 4, {}⟩]
    JValid ps ({ w := { acfg := {} } } : EWorld)
      [.vec (.new 0 ps [0] 2 0 1), .vec (.inplace 0 (.emplace [[7]])), .elem (.fromRef 0 0 0 1 false), .elem (.copyA 0 1 2),
       .elem (.assign 0 1), .elem (.destroy 0), .elem (.destroy 1), .vec (.destroy 0)] := by
  intro ps
  refine ⟨rfl, ?_⟩
  refine ⟨fun n b h => VOp.noConfusion h, ?_⟩
  refine ⟨rfl, ?_⟩
  refine ⟨rfl, ?_⟩
  exact ⟨trivial, trivial, trivial, trivial, trivial⟩

end Cntgs.C07
