/-
C05 — tight packing: padding only where alignment demands it; predictable footprint.
-/
import Cntgs.LayoutProofs
namespace Cntgs.C05

/-- Each field starts at the lowest suitably aligned address after the previous field: the code's
    placement *is* the greedy placement (`alignUp` is the least multiple ≥ its argument, lemma
    `alignUp_le_of_dvd`). -/
theorem fields_greedy (ps : List Param) (counts : List Nat) (start : Nat)
    (hwf : ∀ p ∈ ps, WfParam p) (hne : ps ≠ []) (hc : CountsOK ps counts) (hs : storageAl ps ∣ start) :
    place ps counts start = greedyGo ps counts start :=
  place_eq_greedy ps counts start hwf hne hc hs

/-- `alignUp p a` is the lowest multiple of `a` that is not below `p` -/
theorem alignUp_is_lowest (p a q : Nat) (ha : 0 < a) (hq : a ∣ q) (hpq : p ≤ q) :
    a ∣ alignUp p a ∧ p ≤ alignUp p a ∧ alignUp p a ≤ q :=
  ⟨alignUp_dvd p a, alignUp_ge p a ha, alignUp_le_of_dvd ha hq hpq⟩

/-- Each element starts at the lowest address aligned to the largest parameter alignment after the
    previous element. -/
theorem elements_greedy (ps : List Param) (counts : List Nat) (start : Nat)
    (hwf : ∀ p ∈ ps, WfParam p) (hne : ps ≠ []) (hc : CountsOK ps counts) (hs : storageAl ps ∣ start) :
    alignFirst ps (placeEnd ps counts start) = alignUp (placeEnd ps counts start) (storageAl ps) := by
  rw [placeEnd_eq_goEnd ps counts start hwf hne hc hs]
  exact alignFirst_end ps counts start hwf hne hc hs

/-- Allocation is rounded up to whole storage units and wastes less than one unit. -/
theorem units_tight (bytes S : Nat) (hS : 0 < S) :
    bytes ≤ units bytes S * S ∧ units bytes S * S < bytes + S := by
  rw [units_mul_eq_alignUp bytes S hS]
  exact alignUp_bounds bytes S hS

example : units 40 8 = 5 ∧ units 41 8 = 6 := by decide

end Cntgs.C05
