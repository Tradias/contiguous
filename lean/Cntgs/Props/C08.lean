/-
C08 — allocator propagation follows std::allocator_traits.
-/
import Cntgs.WorldCases
namespace Cntgs.C08

/-- copy construction: `select_on_container_copy_construction` of the source's allocator -/
theorem copy_construction (h : Heap) (unit : Nat) (o : Ptr) (h' : Heap) (p : Ptr) (hc : Ptr.copy h unit o = (h', some p)) :
    p.alloc = socc o.alloc := by
  unfold Ptr.copy at hc
  rw [make_eq] at hc
  split at hc <;> cases hc
  rfl

/-- copy assignment: the source's allocator exactly when POCCA, unchanged otherwise; and the pointer owns
    its block through an allocator equal to the resulting one -/
theorem copy_assignment (h : Heap) (hw : h.WF) (c : ACfg) (unit : Nat) (p o : Ptr) (hp : Owns h c unit p)
    (hok : (p.copyAssign h c unit o).2.2 = true) :
    (p.copyAssign h c unit o).2.1.alloc = (if c.pocca then o.alloc else p.alloc) ∧
    Owns (p.copyAssign h c unit o).1 c unit (p.copyAssign h c unit o).2.1 := by
  rcases (copyAssign_spec h hw c unit p o hp).2 with ⟨_, _, howns, halloc⟩ | ⟨hfailed, _⟩
  · exact ⟨halloc, howns⟩
  · rw [hok] at hfailed; cases hfailed

/-- move assignment: the source's allocator exactly when POCMA -/
theorem move_assignment (h : Heap) (hw : h.WF) (c : ACfg) (unit : Nat) (p o : Ptr) (hp : Owns h c unit p) :
    (p.moveAssign h c unit o).2.1.alloc = (if c.pocma then o.alloc else p.alloc) :=
  rfl

/-- swap: allocators are exchanged exactly when POCS; both sides own what they hold afterwards, given the
    standard's precondition (propagating or equal allocators) -/
theorem swap_propagation (h : Heap) (c : ACfg) (unit : Nat) (a b : Ptr) (ha : Owns h c unit a) (hb : Owns h c unit b)
    (hpre : c.pocs = true ∨ c.ae = true ∨ a.alloc = b.alloc) :
    (Ptr.swap c a b).1.alloc = (if c.pocs then b.alloc else a.alloc) ∧
    (Ptr.swap c a b).2.alloc = (if c.pocs then a.alloc else b.alloc) ∧
    Owns h c unit (Ptr.swap c a b).1 ∧ Owns h c unit (Ptr.swap c a b).2 :=
  have ⟨_, _, halloc1, halloc2⟩ := swap_spec c a b
  ⟨halloc1, halloc2, swap_owns h c a b ha hb hpre⟩

/-- move assignment between unequal, non-propagating allocators does not steal: the target keeps its own
    allocator, the source keeps its block, and the elements are transferred (moved one by one: the source
    is left with moved-from values) into memory of the target's allocator -/
theorem move_assign_unequal_transfers (w : World) (s d : Nat) (vs vd : Vec) (hsd : s ≠ d)
    (hs : w.vecs s = some vs) (hd : w.vecs d = some vd)
    (hne : (w.acfg.ae || w.acfg.pocma || w.acfg.eq vd.alloc vs.alloc) = false) (hnf : w.heap.fail = none) :
    ∃ vd' vs', (w.moveAssign s d).vecs d = some vd' ∧ (w.moveAssign s d).vecs s = some vs' ∧
      vd'.alloc = vd.alloc ∧ vd'.mem = vs.mem ∧ vd'.cap = vs.cap ∧ vs'.blk = vs.blk ∧
      vs'.mem = vs.mem.map (fun r => { r with e := movedValues vs.ps r.e }) := by
  rcases World.moveAssign_cases hsd hs hd with ⟨hst, _⟩ | ⟨_, hf | ⟨_, _, _, ha, _, e⟩⟩
  · rw [hne] at hst; cases hst
  · exact absurd hnf hf.sched
  · rw [e]; exact ⟨_, _, (if_neg (Ne.symm hsd)).trans (if_pos rfl), if_pos rfl, ha, rfl, rfl, rfl, rfl⟩

end Cntgs.C08
