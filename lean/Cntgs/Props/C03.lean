/-
C03 — objects of `AlignAs<T, A>` parameters are always `A`-aligned.
-/
import Cntgs.LayoutProofs
namespace Cntgs.C03

/-- Every object of every parameter of an element that the code places at a storage-aligned start is
    aligned to that parameter's `AlignAs` value — for all well-formed lists (alignments need not be
    monotone), all counts (every residue of `size * count` modulo `A`) and every start that is aligned
    to exactly the storage alignment. `place` is the address walk the code performs in `emplace_at` and
    `load_element_at`, steered by the compile-time trailing-alignment claims. -/
theorem objects_aligned (ps : List Param) (counts : List Nat) (start : Nat)
    (hwf : ∀ p ∈ ps, WfParam p) (hne : ps ≠ []) (hc : CountsOK ps counts)
    (hs : storageAl ps ∣ start) :
    ∀ x ∈ List.zip ps (place ps counts start), x.1.al ∣ x.2.1 := by
  rw [place_eq_greedy ps counts start hwf hne hc hs]
  exact greedyGo_aligned ps counts start

/-- The storage alignment (alignment of the allocator's value type, of every block begin and of every
    element start) is a power of two that every parameter alignment divides. -/
theorem storage_alignment_suffices (ps : List Param) (hwf : ∀ p ∈ ps, WfParam p) :
    ∀ p ∈ ps, p.al ∣ storageAl ps := al_dvd_storageAl ps hwf

/-- The next element starts storage-aligned: `align_for_first_parameter` applied to the end of an
    element is the round-up to the storage alignment, although the code skips the run-time alignment
    whenever the compile-time claim says the end is aligned already. -/
theorem next_element_start_aligned (ps : List Param) (counts : List Nat) (start : Nat)
    (hwf : ∀ p ∈ ps, WfParam p) (hne : ps ≠ []) (hc : CountsOK ps counts) (hs : storageAl ps ∣ start) :
    storageAl ps ∣ alignFirst ps (placeEnd ps counts start) := by
  rw [placeEnd_eq_goEnd ps counts start hwf hne hc hs, alignFirst_end ps counts start hwf hne hc hs]
  exact alignUp_dvd _ _

/-- Relocation keeps alignment: moving an element by a multiple of the storage alignment (erase shift,
    grow, copy, element copy to the begin of a fresh block) moves every object by the same amount. -/
theorem relocation_keeps_layout (ps : List Param) (counts : List Nat) (start d : Nat)
    (hwf : ∀ p ∈ ps, WfParam p) (hne : ps ≠ []) (hc : CountsOK ps counts)
    (hs : storageAl ps ∣ start) (hd : storageAl ps ∣ d) :
    place ps counts (d + start) = (place ps counts start).map (fun x => (d + x.1, d + x.2)) := by
  rw [place_eq_greedy ps counts start hwf hne hc hs,
      place_eq_greedy ps counts (d + start) hwf hne hc (Nat.dvd_add hd hs)]
  exact greedyGo_shift ps counts start d hwf (fun p hp => Nat.dvd_trans (al_dvd_storageAl ps hwf p hp) hd)

/-- non-vacuity: a non-monotone list (`FixedSize<AlignAs<12 bytes,16>>, AlignAs<u16,2>, VaryingSize<AlignAs<3 bytes,4>>,
    AlignAs<5 bytes,8>`) meets the hypotheses; its placement for counts (2,1,3,1) at 0 is what the real
    library produces (corpus configuration `nonmono`). -/
example : place [⟨.fixed, 12, 16, {}⟩, ⟨.plain, 2, 2, {}⟩, ⟨.varying, 3, 4, {}⟩, ⟨.plain, 5, 8, {}⟩] [2, 1, 3, 1] 0
    = [(0, 24), (24, 26), (28, 37), (40, 45)] := by decide +kernel

end Cntgs.C03
