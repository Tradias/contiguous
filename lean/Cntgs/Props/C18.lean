/-
C18 — empty, zero-capacity and default-constructed vectors are fully usable.

`junk` is the content of freshly allocated (or never allocated) bookkeeping memory: every theorem below is stated for an
arbitrary `junk`, so no observation can depend on it.
-/
import Cntgs.FixProofs
import Cntgs.VarRelocProofs
import Cntgs.WorldCases
import Cntgs.Props.C01
namespace Cntgs.C18

/-- what C18 lists for an empty vector: size() == 0, empty(), begin() == end() (no element to read),
    data_begin() == data_end() (offsets 0 and 0 of the block; for a vector without a block: null and null) -/
structure EmptyObs (v : Vec) : Prop where
  size : v.size = 0
  elems : v.abs = []
  data : v.dataEnd = 0
  clean : v.poison = false

theorem empty_of_canon {v : Vec} (h : Canon v []) : EmptyObs v :=
  -- `Canon` at `[]`, read by definition: `[].map some` is `[]`, and both candidates for `data_end()`, `rawEnd` and `span`, are `0`
  have hend : v.dataEnd = 0 ∨ v.dataEnd = 0 := h.end_eq
  ⟨h.size_eq, h.abs_eq, hend.elim id id, h.clean⟩

theorem empty_offset_table {v : Vec} (h : VarInv v []) : EmptyObs v := empty_of_canon h.canon

theorem empty_stride {v : Vec} (h : FixInv v []) : EmptyObs v := empty_of_canon h.canon

/-- freshly constructed, any capacity including 0, any junk in the offset table -/
theorem fresh_offset_table (ps : List Param) (fs : List Nat) (cap bytes : Nat) (junk : Nat → Nat) (hl : ListOK ps)
    (hnf : isFixedOrPlain ps = false) : EmptyObs (Vec.new ps fs cap bytes junk) :=
  empty_offset_table (VarInv.new ps fs cap bytes junk hl hnf)

theorem fresh_stride (ps : List Param) (fs : List Nat) (cap bytes : Nat) (junk : Nat → Nat) (hl : ListOK ps)
    (hf : isFixedOrPlain ps = true) (hlf : ps.length ≤ fs.length) : EmptyObs (Vec.new ps fs cap bytes junk) :=
  empty_stride (FixInv.new ps fs cap bytes junk hl hf hlf)

/-- default-constructed: no block, no table, capacity 0 -/
theorem default_offset_table (ps : List Param) (junk : Nat → Nat) (hl : ListOK ps) (hnf : isFixedOrPlain ps = false) :
    VarInv (Vec.default ps junk) [] :=
  VarInv.empty hl hnf rfl rfl rfl rfl

theorem default_stride (ps : List Param) (junk : Nat → Nat) (hl : ListOK ps) (hf : isFixedOrPlain ps = true) :
    FixInv (Vec.default ps junk) [] :=
  FixInv.empty hl hf rfl (elemSize_stride_dvd ps _ hl hf (by simp)) rfl rfl

/-- emptied by any history: whenever the plain sequence is empty after the history, the vector shows the empty
    observations (pop_back of the last element, erase of everything, clear) — offset-table locator, `memmove` path -/
theorem emptied_offset_table_partial (ps : List Param) (fs : List Nat) (cap bytes : Nat) (junk : Nat → Nat)
    (hl : ListOK ps) (hnf : isFixedOrPlain ps = false) (ht : (Vec.new ps fs cap bytes junk).trivialReloc = true)
    (ops : List VOp) (hv : Valid ps [] ops) (hempty : ops.foldl VOp.spec [] = []) :
    EmptyObs (ops.foldl (VOp.apply junk) (Vec.new ps fs cap bytes junk)) :=
  empty_offset_table (hempty ▸ (VarInv.new ps fs cap bytes junk hl hnf).history ht junk ops hv)

theorem emptied_stride (ps : List Param) (fs : List Nat) (cap bytes : Nat) (junk : Nat → Nat)
    (hl : ListOK ps) (hf : isFixedOrPlain ps = true) (hlf : ps.length ≤ fs.length)
    (ops : List VOp) (hv : C01.ValidFixed ps fs [] ops) (hempty : ops.foldl VOp.spec [] = []) :
    EmptyObs (ops.foldl (VOp.apply junk) (Vec.new ps fs cap bytes junk)) :=
  empty_stride (hempty ▸ (FixInv.new ps fs cap bytes junk hl hf hlf).history_all junk ops
    (C01.validFix_of_counts ps fs hl hf hlf ops [] hv))

/-- `clear()`, `erase(begin(), end())` and `reserve` on an empty vector are well defined and leave it empty; these need no
    assumption on the value types (nothing is relocated) -/
theorem ops_on_empty_offset_table {v : Vec} (h : VarInv v []) (junk : Nat → Nat) (n b : Nat) :
    VarInv v.clear [] ∧ VarInv (v.eraseRange 0 0) [] ∧ VarInv (v.reserve n b junk) [] :=
  ⟨h.step junk .clear trivial, h.step junk (.eraseRange 0 0) ⟨Nat.le_refl 0, Nat.le_refl 0, fun _ hlt => absurd hlt (Nat.lt_irrefl 0)⟩,
    h.reserve n b junk⟩

theorem ops_on_empty_stride {v : Vec} (h : FixInv v []) (junk : Nat → Nat) (n b : Nat) :
    FixInv v.clear [] ∧ FixInv (v.eraseRange 0 0) [] ∧ FixInv (v.reserve n b junk) [] :=
  ⟨h.step junk .clear trivial, h.step junk (.eraseRange 0 0) ⟨Nat.le_refl 0, Nat.le_refl 0, fun _ hlt => absurd hlt (Nat.lt_irrefl 0)⟩,
    h.reserve n b junk⟩

/-- observations never depend on the junk in fresh bookkeeping memory: two runs of the same history over different junk
    observe the same -/
theorem junk_independent_partial (ps : List Param) (fs : List Nat) (cap bytes : Nat) (junk1 junk2 : Nat → Nat)
    (hl : ListOK ps) (hnf : isFixedOrPlain ps = false) (ht : (Vec.new ps fs cap bytes junk1).trivialReloc = true)
    (ops : List VOp) (hv : Valid ps [] ops) :
    C01.obs (ops.foldl (VOp.apply junk1) (Vec.new ps fs cap bytes junk1)) =
    C01.obs (ops.foldl (VOp.apply junk2) (Vec.new ps fs cap bytes junk2)) := by
  rw [(C01.history_offset_table_partial ps fs cap bytes junk1 hl hnf ht ops hv).1,
      (C01.history_offset_table_partial ps fs cap bytes junk2 hl hnf ht ops hv).1]

/-- after reserve / emplace_back an empty vector behaves like any other: the history theorems start from `VarInv v []` /
    `FixInv v []`, whichever way that state was reached -/
theorem usable_afterwards_partial {v : Vec} (h : VarInv v []) (ht : v.trivialReloc = true) (junk : Nat → Nat)
    (ops : List VOp) (hv : Valid v.ps [] ops) :
    (ops.foldl (VOp.apply junk) v).abs = (ops.foldl VOp.spec []).map some :=
  (h.history ht junk ops hv).abs_eq

/-- emptied by any history, **all value types** (offset-table locator): as `emptied_offset_table_partial`, for every history
    whose erases relocate no element onto its own live objects (the complement is the known finding of C06) -/
theorem emptied_offset_table_all_types (ps : List Param) (fs : List Nat) (cap bytes : Nat) (junk : Nat → Nat)
    (hl : ListOK ps) (hnf : isFixedOrPlain ps = false)
    (ops : List VOp) (hv : ValidNoOverlap ps [] ops) (hempty : ops.foldl VOp.spec [] = []) :
    EmptyObs (ops.foldl (VOp.apply junk) (Vec.new ps fs cap bytes junk)) :=
  empty_offset_table (hempty ▸ (VarInv.new ps fs cap bytes junk hl hnf).history_all junk ops hv)

/-- observations never depend on the junk in fresh bookkeeping memory, all value types -/
theorem junk_independent_all_types (ps : List Param) (fs : List Nat) (cap bytes : Nat) (junk1 junk2 : Nat → Nat)
    (hl : ListOK ps) (hnf : isFixedOrPlain ps = false) (ops : List VOp) (hv : ValidNoOverlap ps [] ops) :
    C01.obs (ops.foldl (VOp.apply junk1) (Vec.new ps fs cap bytes junk1)) =
    C01.obs (ops.foldl (VOp.apply junk2) (Vec.new ps fs cap bytes junk2)) := by
  rw [(C01.history_offset_table_no_overlap ps fs cap bytes junk1 hl hnf ops hv).1,
      (C01.history_offset_table_no_overlap ps fs cap bytes junk2 hl hnf ops hv).1]

/-- after reserve / emplace_back an empty vector — however it became empty — behaves like any other, all value types -/
theorem usable_afterwards_all_types {v : Vec} (h : VarInv v []) (junk : Nat → Nat)
    (ops : List VOp) (hv : ValidNoOverlap v.ps [] ops) :
    (ops.foldl (VOp.apply junk) v).abs = (ops.foldl VOp.spec []).map some :=
  (h.history_all junk ops hv).abs_eq

theorem usable_afterwards_stride {v : Vec} (h : FixInv v []) (junk : Nat → Nat)
    (ops : List VOp) (hv : ValidFix v.ps v.loc.stride [] ops) :
    (ops.foldl (VOp.apply junk) v).abs = (ops.foldl VOp.spec []).map some :=
  (h.history_all junk ops hv).abs_eq

/-- a default-constructed vector owns nothing, so destroying it frees nothing and reports no ledger error (copying and
    swapping empty vectors: the step theorems of C09) -/
theorem destroy_default (w : World) (k : Nat) (ps : List Param) :
    ((w.newDefault k ps).destroy k).heap.live = w.heap.live ∧ ((w.newDefault k ps).destroy k).heap.errs = w.heap.errs := by
  -- the vector at `k` is `Vec.default`; its pointer holds no block, so `Ptr.dealloc` returns the ledger as it is
  have hk : (w.newDefault k ps).vecs k = some (Vec.default ps w.junk) := if_pos rfl
  have hfree : (Vec.default ps w.junk).ptr.dealloc w.heap w.acfg (Vec.default ps w.junk).S = w.heap := rfl
  rw [World.destroy_some hk]
  exact ⟨congrArg Heap.live hfree, congrArg Heap.errs hfree⟩

end Cntgs.C18
