/-
C02 — no access outside the allocated block while within declared capacity.

Offsets are relative to the begin of the block; the block has `Vec.bytes = units * STORAGE_ELEMENT_ALIGNMENT` bytes.
Every access of the code goes to an element record (C04: all fields lie inside `[start, start + extent)`), so "no access
outside the block" is: every live record, and the record being constructed, ends at or before `bytes`.
-/
import Cntgs.FixProofs
import Cntgs.FitProofs
import Cntgs.Props.C01
namespace Cntgs.C02

/-- whole storage units cover the bytes asked for and are a multiple of the unit -/
theorem units_cover (bytes S : Nat) (hS : 0 < S) : bytes ≤ units bytes S * S ∧ S ∣ units bytes S * S :=
  ⟨le_units_mul bytes S hS, Nat.dvd_mul_left _ _⟩

/-- **Lists without VaryingSize**: a vector constructed for `N` elements (any payload budget `B`) has room for `N`
    strides — element `k < N` ends inside the block, and so does `data_end()` of a full vector — for every parameter
    list, every alignment combination and all fixed sizes. -/
theorem fit_stride (ps : List Param) (fs : List Nat) (N B : Nat) (junk : Nat → Nat) (hl : ListOK ps)
    (hf : isFixedOrPlain ps = true) (hlf : ps.length ≤ fs.length) :
    let v := Vec.new ps fs N B junk
    v.loc.stride * N ≤ v.bytes ∧
    (∀ (e : Elem) (k : Nat), k < N → elemCounts e = fixedCounts ps fs → v.loc.stride * k + esz ps e ≤ v.bytes) := by
  intro v
  obtain ⟨hsz, hst⟩ := elemSize_fixed ps fs hl.wf hl.ne (noVarying_of_fixedOrPlain ps hf) hlf
  have hround : (elemSize ps fs).stride = alignUp (elemSize ps fs).size (storageAl ps) := by rw [hst, hsz]
  have hfull : v.loc.stride * N ≤ v.bytes := stride_mul_le_units (storageAl ps) N B (elemSize ps fs) (storage_pos hl) hround
  -- element `k` ends inside stride `k`, stride `k` before the end of stride `N - 1`
  exact ⟨hfull, fun e k hk he => Nat.le_trans (Nat.add_le_add_left (fixed_fit ps fs hl hf hlf e he) _)
    (Nat.le_trans (Nat.mul_le_mul_left _ hk) hfull)⟩

/-- in every state that satisfies the invariant (every history reaches only such states: C01) with at most `N` elements,
    the constructor's stride and a block at least the constructor's: `data_end() - data_begin()` does not exceed
    `memory_consumption()` and every live element lies inside the block (stride locator) -/
theorem history_stride_inside (ps : List Param) (fs : List Nat) (N B : Nat) (junk : Nat → Nat) (hl : ListOK ps)
    (hf : isFixedOrPlain ps = true) (hlf : ps.length ≤ fs.length)
    (v : Vec) (es : List Elem) (h : FixInv v es) (hcap : es.length ≤ N)
    (hst : v.loc.stride = (Vec.new ps fs N B junk).loc.stride) (hps : v.ps = ps)
    (hb : (Vec.new ps fs N B junk).bytes ≤ v.bytes) :
    v.dataEnd ≤ v.bytes ∧ ∀ r ∈ v.mem, r.off + r.sz ≤ v.bytes := by
  have hfit := (fit_stride ps fs N B junk hl hf hlf).1
  rw [← hst] at hfit
  have hspan : span v.slot es ≤ v.bytes := by
    rw [span_slot_fixed h.isFixed]
    exact Nat.le_trans (Nat.mul_le_mul_left _ hcap) (Nat.le_trans hfit hb)
  exact ⟨Nat.le_trans h.canon.inside.2 hspan, fun r hr => Nat.le_trans (h.canon.inside.1 r hr) hspan⟩

/-- **Lists with a VaryingSize parameter**: a vector constructed for `N` elements and `B` bytes of varying payload has
    room for any sequence of at most `N` elements whose varying payloads total at most `B` bytes: element `k` of the
    canonical layout ends inside the block, for every well-formed parameter list, every alignment combination, all fixed
    sizes and every distribution of the varying sizes (empty spans included). -/
theorem fit_offset_table (ps : List Param) (fs : List Nat) (N B : Nat) (junk : Nat → Nat) (hl : ListOK ps)
    (hvo : VarOK false ps) (es : List Elem) (hm : ∀ e ∈ es, CountsMatch ps fs (elemCounts e))
    (hN : es.length ≤ N) (hB : varPayload ps es ≤ B) :
    ∀ k, k < es.length → canonOff ps es k + esz ps (es.getD k []) ≤ (Vec.new ps fs N B junk).bytes :=
  Cntgs.fit_offset_table ps fs N B hl hvo es hm hN hB

/-- the same room after `reserve(n, b)` beyond the capacity (C10: "the vector can hold n elements with b bytes") -/
theorem reserve_room (v : Vec) (n b : Nat) (junk : Nat → Nat) (hl : ListOK v.ps) (hnf : v.fixedLoc = false) (hgrow : v.cap < n)
    (hvo : VarOK false v.ps) (es : List Elem) (hm : ∀ e ∈ es, CountsMatch v.ps v.fs (elemCounts e))
    (hN : es.length ≤ n) (hB : varPayload v.ps es ≤ b) :
    ∀ k, k < es.length → canonOff v.ps es k + esz v.ps (es.getD k []) ≤ (v.reserve n b junk).bytes := by
  have hb : (v.reserve n b junk).bytes = units (needed n b (elemSize v.ps v.fs)) (storageAl v.ps) * storageAl v.ps := by
    simp only [Vec.reserve, hgrow, if_true, Vec.bytes, Vec.S, Vec.newMemorySize, hnf, Bool.false_eq_true, if_false]
  rw [hb]
  exact Cntgs.fit_offset_table v.ps v.fs n b hl hvo es hm hN hB

/-- in every state that satisfies the invariant (every history reaches only such states: C01) within capacity and budget:
    every live element lies inside the block, and `data_end() - data_begin()` does not exceed `memory_consumption()`
    (offset-table locator) -/
theorem history_offset_table_inside (ps : List Param) (fs : List Nat) (N B : Nat) (hl : ListOK ps) (hvo : VarOK false ps)
    (v : Vec) (es : List Elem) (h : VarInv v es) (hps : v.ps = ps)
    (hm : ∀ e ∈ es, CountsMatch ps fs (elemCounts e)) (hN : es.length ≤ N) (hB : varPayload ps es ≤ B)
    (hb : units (needed N B (elemSize ps fs)) (storageAl ps) * storageAl ps ≤ v.bytes) (hbd : storageAl ps ∣ v.bytes) :
    (∀ r ∈ v.mem, r.off + r.sz ≤ v.bytes) ∧ v.dataEnd ≤ v.bytes := by
  -- the last slot ends at the storage-aligned end of the last element, which lies inside the block
  have hspan : span v.slot es ≤ v.bytes := by
    rw [← nextOff_eq_span_slot h.notFixed es, hps]
    by_cases hne : es = []
    · rw [hne]; exact Nat.zero_le _
    · have := Cntgs.fit_offset_table ps fs N B hl hvo es hm hN hB (es.length - 1)
        (Nat.sub_lt (List.length_pos_iff.mpr hne) Nat.one_pos)
      rw [nextOff_eq_alignUp_rawEnd hl es hne, rawEndOf, if_neg hne]
      exact alignUp_le_of_dvd (storage_pos hl) hbd (Nat.le_trans this hb)
  exact ⟨fun r hr => Nat.le_trans (h.canon.inside.1 r hr) hspan, Nat.le_trans h.canon.inside.2 hspan⟩

/-! non-vacuity: the list of C01's example (`uint32`, VaryingSize<AlignAs<float,16>>, `uint8`) with three elements of
    payload 4 + 12 + 8 bytes meets the hypotheses for N = 3, B = 24 -/
example : VarOK false C01.exPs ∧
    (∀ e ∈ [[[1], [7], [3]], [[3], [7, 8, 9], [4]], [[2], [5, 6], [1]]], CountsMatch C01.exPs [0, 0, 0] (elemCounts e)) ∧
    varPayload C01.exPs [[[1], [7], [3]], [[3], [7, 8, 9], [4]], [[2], [5, 6], [1]]] ≤ 24 := by
  refine ⟨by simp [VarOK, C01.exPs], ?_, by decide⟩
  intro e he
  simp only [List.mem_cons, List.mem_nil_iff, or_false] at he
  rcases he with rfl | rfl | rfl <;> simp [CountsMatch, C01.exPs, elemCounts]

end Cntgs.C02
