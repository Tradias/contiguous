/-
C16 — no hidden reallocation: addresses are stable until capacity is exceeded.

An address in the model is (block, offset).  `Vec.blk` is the block the vector owns; `Vec.addr k` is the offset of
element `k` inside it; field addresses inside an element are a function of the element's start (C04).  The operations on
one vector (`VOp`) never touch the block field or the allocator ledger; only `World.reserve` beyond the capacity,
assignment and swap do.
-/
import Cntgs.FixProofs
import Cntgs.WorldCases
import Cntgs.Props.C01
namespace Cntgs.C16

/-- `relocateOne i src` writes at most one table slot, `i + 1` (where the next element will start) -/
theorem relocateOne_front (w : Vec) (i src k : Nat) (hk : k ≤ i) : (w.relocateOne i src).loc.slots k = w.loc.slots k := by
  simp only [Vec.relocateOne]
  split
  · -- no record at the source: only the poison flag is set
    rfl
  · simp only
    split
    · -- stride locator: the locator is kept
      rfl
    · -- offset table: `setSlot (i + 1) _`, and `k ≠ i + 1`
      exact if_neg (Nat.ne_of_lt (Nat.lt_succ_of_le hk))

theorem relocate_fold_front (src dst : Nat) (l : List Nat) (w : Vec) (k : Nat) (hk : k ≤ dst) :
    (l.foldl (fun (w : Vec) m => w.relocateOne (dst + m) (src + m)) w).loc.slots k = w.loc.slots k := by
  induction l generalizing w with
  | nil => rfl
  | cons m ms ih => exact (ih _).trans (relocateOne_front w (dst + m) (src + m) k (Nat.le_trans hk (Nat.le_add_right _ _)))

/-- `move_elements_forward` is only called with `dst ≤ src ≤ size()` -/
theorem moveForward_front (v : Vec) (src dst k : Nat) (hk : k < dst) (hds : dst ≤ src) (hsrc : src ≤ v.size) :
    (v.moveForward src dst).addr k = v.addr k := by
  refine addr_congr (moveForward_frame v src dst) ?_
  unfold Vec.moveForward
  cases v.trivialReloc with
  | false => exact relocate_fold_front src dst _ v k (Nat.le_of_lt hk)
  | true =>
    show (v.moveForwardTrivial v.mem src dst).loc.slots k = v.loc.slots k
    unfold Vec.moveForwardTrivial
    by_cases hg : (!v.fixedLoc && src == v.loc.size) = true
    · rw [if_pos hg]
    · rw [if_neg hg]
      cases hf : v.fixedLoc with
      | true => rfl
      | false =>
        -- the table slots rewritten are `dst ..` and the one that `resize` reads, `size() - (src - dst) ≥ dst`
        rw [Vec.size, hf] at hsrc
        have hn : dst ≤ v.loc.size - (src - dst) := Nat.le_sub_of_add_le (by rw [Nat.add_sub_cancel' hds]; exact hsrc)
        exact (if_neg (fun h => Nat.not_le.mpr hk h.1)).trans (if_neg (fun h => Nat.ne_of_lt (Nat.lt_of_lt_of_le hk hn) h.2))

/-- `emplace_back` leaves the offset of every stored element unchanged -/
theorem emplace_keeps_addresses (v : Vec) (e : Elem) (k : Nat) (hk : k < v.size) : (v.emplaceBack e).addr k = v.addr k := by
  -- of `emplaceBack_obs`, the addresses: that of `k` is the new element's start if `k = size()`, else what it was
  obtain ⟨_, haddr, _⟩ := emplaceBack_obs v e
  rw [haddr k, if_neg (Nat.ne_of_lt hk)]

/-- `pop_back` and `clear` do not touch any offset -/
theorem pop_keeps_addresses (v : Vec) (k : Nat) : v.popBack.addr k = v.addr k :=
  addr_congr (popBack_frame v) (resize_slots _ _ _ _)

theorem clear_keeps_addresses (v : Vec) (k : Nat) : v.clear.addr k = v.addr k :=
  addr_congr (clear_frame v) (resize_slots _ _ _ _)

/-- `erase(first, last)` keeps the address of every element in front of `first` -/
theorem eraseRange_keeps_front (v : Vec) (i j k : Nat) (hij : i ≤ j) (hk : k < i) : (v.eraseRange i j).addr k = v.addr k := by
  rw [eraseRange_eq, resized_addr]
  split
  · rename_i hmv
    exact moveForward_front (v.withMem (v.destructRange i j)) j i k hk hij (Nat.le_of_lt hmv.1)
  · rfl

/-- `erase(position)` keeps the address of every element in front of `position` -/
theorem erase_keeps_front (v : Vec) (i k : Nat) (hi : i < v.size) (hk : k < i) : (v.erase i).addr k = v.addr k := by
  rw [erase_eq, resized_addr]
  exact moveForward_front (v.withMem (v.destructRange i (i + 1))) (i + 1) i k hk (Nat.le_succ i) hi

/-- `reserve(n, b)` with `n ≤ capacity()` changes nothing: neither the vector nor (on the multi-vector level) the ledger -/
theorem reserve_within_capacity (w : World) (k n b : Nat) (v : Vec) (hv : w.vecs k = some v) (hn : n ≤ v.cap) :
    (w.reserve k n b).vecs = w.vecs ∧ (w.reserve k n b).heap = w.heap := by
  rcases w.reserve_cases k n b with e | e | ⟨v', hv', hc, _⟩
  · rw [e]; exact ⟨rfl, rfl⟩
  · rw [e]; exact ⟨rfl, rfl⟩
  · cases hv.symm.trans hv'
    exact absurd hc (Nat.not_lt.mpr hn)

/-- the operations on one vector request nothing from the allocator -/
theorem inplace_ops_no_allocation (w : World) (k : Nat) (f : Vec → Vec) : (w.upd k f).heap = w.heap := by
  cases hv : w.vecs k with
  | none => rw [World.upd_none f hv]
  | some v => rw [World.upd_some f hv]; rfl

/-- no operation on one vector changes which block (`data_begin()`) or which table it has; for `reserve` the new block comes
    with `World.reserve` -/
theorem ops_keep_block (junk : Nat → Nat) (v : Vec) (op : VOp) :
    (op.apply junk v).blk = v.blk ∧ (op.apply junk v).tbl = v.tbl := by
  cases op with
  | reserve n b =>
    obtain ⟨_, _, _, hblk, htbl⟩ := reserve_frame v n b junk
    exact ⟨hblk, htbl⟩
  | _ => exact ⟨(apply_frame junk v _ (fun _ _ h => VOp.noConfusion h)).blk, (apply_frame junk v _ (fun _ _ h => VOp.noConfusion h)).tbl⟩

/-- capacity changes only through `reserve` beyond the capacity -/
theorem capacity_changes_only_by_reserve (junk : Nat → Nat) (v : Vec) (op : VOp) (h : (op.apply junk v).cap ≠ v.cap) :
    ∃ n b, op = .reserve n b ∧ v.cap < n := by
  rw [C01.apply_cap] at h
  cases op with
  | reserve n b => exact ⟨n, b, rfl, Nat.lt_of_not_le (fun hle => h (Nat.max_eq_left hle))⟩
  | _ => exact absurd rfl h

/-- swap and move construction exchange ownership without allocating: the ledger is untouched -/
theorem swap_no_allocation (w : World) (a b : Nat) : (w.swap a b).heap = w.heap := by
  rcases lookup_pair_cases w.vecs a b with ht | ⟨va, vb, hab, ha, hb⟩
  · exact (World.binary_trivial (P := fun r => r.heap = w.heap) ht rfl rfl).swap
  · rw [World.swap_some hab ha hb]; rfl

theorem move_no_allocation (w : World) (s d : Nat) : (w.move s d).heap = w.heap := by
  cases hs : w.vecs s with
  | none => rw [World.move_none d hs]
  | some vs => rw [World.move_some d hs]; rfl

/-- move construction hands the block itself to the target: every element keeps its absolute address -/
theorem move_keeps_addresses (w : World) (s d : Nat) (vs : Vec) (hs : w.vecs s = some vs) (hsd : s ≠ d) :
    (w.move s d).vecs d = some vs := by
  rw [World.move_some d hs]
  exact (if_neg (Ne.symm hsd)).trans (if_pos rfl)

end Cntgs.C16
