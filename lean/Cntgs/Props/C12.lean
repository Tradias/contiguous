/-
C12 — ContiguousElement is an independent deep copy with full value semantics.
The element lives in `EWorld.elems`, the vectors in `EWorld.w.vecs`: independence of later mutations is
structural in the model; that the real element owns separate storage is what the correspondence run
observes (block serial numbers, allocator identity, the vector dumped next to the element after every step).
-/
import Cntgs.ElemProofs
import Cntgs.VectorProofs
namespace Cntgs.C12

/-- Constructing an element from a reference: it holds the referenced field values, in a block of its own
    obtained from the given allocator and large enough for the element; the source keeps its values when
    the reference is const or an lvalue, and is moved from when it is an rvalue mutable reference. -/
theorem from_reference (ew : EWorld) (ps : List Param) (k s i alloc : Nat) (mv : Bool) (v : Vec) (e : Elem)
    (hv : ew.w.vecs s = some v) (he : v.get i = some e) (hS : 0 < storageAl ps)
    (hnf : ew.w.heap.fail = none) :
    let ew' := ew.elemFromRef ps k s i alloc mv
    ∃ p, ew'.elems k = some ⟨e, elemBytes ps e, p⟩ ∧ p.alloc = alloc ∧ p.blk = some ew.w.heap.next ∧
      elemBytes ps e ≤ p.units * storageAl ps ∧
      (mv = false → ew'.w.vecs = ew.w.vecs) ∧
      (mv = true → ew'.w.vecs s = some (v.setElem i (movedValues ps e))) := by
  have hve : (ew.w.vecs s).bind (fun v => (v.get i).map (fun e => (v, e))) = some (v, e) := by
    rw [hv, Option.bind_some, he]; rfl
  rw [EWorld.elemFromRef_eq, hve, Option.elim_some, if_neg (no_fault hnf)]
  refine ⟨_, EWorld.setE_self .., rfl, rfl, le_units_mul _ _ hS, ?_, ?_⟩
  · rintro rfl; rfl
  · rintro rfl; exact if_pos rfl

/-- Copy assignment between elements of lists without VaryingSize (field-wise path): the target holds the
    source's values afterwards and the source is unchanged. -/
theorem copy_assign_fixed (ew : EWorld) (ps : List Param) (a b : Nat) (ea eb : ElemSt) (hab : a ≠ b)
    (ha : ew.elems a = some ea) (hb : ew.elems b = some eb)
    (hfix : (isFixedOrPlain ps && (!ew.w.acfg.pocca || ew.w.acfg.ae)) = true)
    (hla : ea.val.length = ps.length) (hlb : eb.val.length = ps.length) :
    let ew' := ew.elemAssign ps a b
    (ew'.elems b).map (·.val) = some ea.val ∧ ew'.elems a = some ea ∧ (ew'.elems b).map (·.ptr.blk) = some eb.ptr.blk := by
  -- `hfix` leaves the field-wise branch only
  refine EWorld.elemAssign_cases (P := fun r => (r.elems b).map (·.val) = some ea.val ∧ r.elems a = some ea ∧
    (r.elems b).map (·.ptr.blk) = some eb.ptr.blk) hab ha hb ps (fun _ => ?fieldwise) (fun hf => absurd hfix hf) (fun hf => absurd hfix hf)
  -- there slot `b` holds `eb` with the values that `refAssign` gave the target, which are the source's, and the old block;
  -- slot `a` is not written
  have hval : (refAssign ps false ea.val eb.val).2 = ea.val := by rw [refAssign_eq ps false ea.val eb.val hla hlb]
  exact ⟨(congrArg _ (ew.setE_self b _)).trans (congrArg some hval), (ew.setE_other _ hab).trans ha, congrArg _ (ew.setE_self b _)⟩

/-- Copy assignment on the reallocating path (lists with VaryingSize, or propagating unequal allocators):
    values equal the source's, also between elements of different varying sizes. -/
theorem copy_assign_varying (ew : EWorld) (ps : List Param) (a b : Nat) (ea eb : ElemSt) (hab : a ≠ b)
    (ha : ew.elems a = some ea) (hb : ew.elems b = some eb)
    (hvar : (isFixedOrPlain ps && (!ew.w.acfg.pocca || ew.w.acfg.ae)) = false) (hnf : ew.w.heap.fail = none) :
    let ew' := ew.elemAssign ps a b
    (ew'.elems b).map (·.val) = some ea.val ∧ (ew'.elems b).map (·.bytes) = some ea.bytes ∧ ew'.elems a = some ea := by
  refine EWorld.elemAssign_cases (P := fun r => (r.elems b).map (·.val) = some ea.val ∧ (r.elems b).map (·.bytes) = some ea.bytes ∧
    r.elems a = some ea) hab ha hb ps (fun hf => ?fieldwise) (fun _ hf => absurd hf (no_fault hnf)) (fun _ h1 p1 _ => ?ok)
  case fieldwise => exact absurd (hf.symm.trans hvar) (by decide)
  -- slot `b` holds the source's values and size around the pointer that `Ptr.copyAssign` returned
  case ok => exact ⟨congrArg _ (ew.setE_self b _), congrArg _ (ew.setE_self b _), (ew.setE_other _ hab).trans ha⟩

/-- Move assignment gives the target exactly the source's former values on every branch (steal,
    field-wise move for lists without VaryingSize, re-allocation, in-place). -/
theorem move_assign_value (ew : EWorld) (ps : List Param) (a b : Nat) (ea eb : ElemSt) (hab : a ≠ b)
    (ha : ew.elems a = some ea) (hb : ew.elems b = some eb) (hnf : ew.w.heap.fail = none)
    (hla : ea.val.length = ps.length) (hlb : eb.val.length = ps.length) :
    ((ew.elemMoveAssign ps a b).elems b).map (·.val) = some ea.val := by
  -- every branch that does not throw writes slot `b`, then slot `a`: slot `b` holds what the branch stored there
  -- (`setE_setE_fst`) — the source's element as it was, or the target with the values that `refAssign` gave it
  refine EWorld.elemMoveAssign_cases (P := fun r => (r.elems b).map (·.val) = some ea.val) hab ha hb ps
    (fun _ => ?steal) (fun _ _ => ?fieldwise) (fun _ _ _ hf => absurd hf (no_fault hnf)) (fun _ _ _ _ => ?grow) (fun _ _ _ => ?inplace)
  case fieldwise =>
    have hval : (refAssign ps true ea.val eb.val).2 = ea.val := by rw [refAssign_eq ps true ea.val eb.val hla hlb]
    exact (congrArg _ (ew.setE_setE_fst _ _ hab)).trans (congrArg some hval)
  case steal | grow | inplace => exact congrArg _ (ew.setE_setE_fst _ _ hab)

/-- `swap` exchanges the values (and the storage) of two elements -/
theorem swap_values (ew : EWorld) (a b : Nat) (ea eb : ElemSt) (hab : a ≠ b)
    (ha : ew.elems a = some ea) (hb : ew.elems b = some eb) :
    ((ew.elemSwap a b).elems a).map (·.val) = some eb.val ∧ ((ew.elemSwap a b).elems b).map (·.val) = some ea.val ∧
    ((ew.elemSwap a b).elems a).map (·.ptr.blk) = some eb.ptr.blk ∧ ((ew.elemSwap a b).elems b).map (·.ptr.blk) = some ea.ptr.blk := by
  rw [EWorld.elemSwap_some hab ha hb]
  obtain ⟨hblk_fst, hblk_snd, _, _⟩ := swap_spec ew.w.acfg ea.ptr eb.ptr
  have hA : ∀ x y, ((ew.setE a x).setE b y).elems a = x := fun x y => ew.setE_setE_fst x y (Ne.symm hab)
  have hB : ∀ x y, ((ew.setE a x).setE b y).elems b = y := fun x y => (ew.setE a x).setE_self b y
  exact ⟨congrArg _ (hA _ _), congrArg _ (hB _ _), (congrArg _ (hA _ _)).trans (congrArg some hblk_fst),
    (congrArg _ (hB _ _)).trans (congrArg some hblk_snd)⟩

/-- Assigning an element back to a reference (of the same list) preserves the values exactly -/
theorem to_reference (ps : List Param) (e target : Elem) (he : e.length = ps.length) (ht : target.length = ps.length) :
    (refAssign ps false e target).2 = e ∧ (refAssign ps false e target).1 = e :=
  refAssign_eq ps false e target he ht ▸ ⟨rfl, rfl⟩


/-- Allocator-extended copy construction `Element{const Element&, allocator}`: the new element holds the source's values in
    a block of its own from the given allocator, large enough for it; the source (values, block) and every vector are
    untouched — a const source is never written. -/
theorem copy_with_allocator (ew : EWorld) (ps : List Param) (a b alloc : Nat) (ea : ElemSt) (hab : a ≠ b)
    (ha : ew.elems a = some ea) (hS : 0 < storageAl ps) (hnf : ew.w.heap.fail = none) :
    let ew' := ew.elemCopyA ps a b alloc
    (∃ p, ew'.elems b = some ⟨ea.val, ea.bytes, p⟩ ∧ p.alloc = alloc ∧ p.blk = some ew.w.heap.next ∧
      ea.bytes ≤ p.units * storageAl ps) ∧
    ew'.elems a = some ea ∧ ew'.w.vecs = ew.w.vecs := by
  rw [EWorld.elemCopyA_eq, ha, Option.elim_some, if_neg (no_fault hnf)]
  exact ⟨⟨_, ew.setE_self .., rfl, rfl, le_units_mul _ _ hS⟩, (ew.setE_other _ hab).trans ha, rfl⟩

/-- Allocator-extended move construction `Element{Element&&, allocator}` with an allocator equal to the source's: the
    block changes owner, nothing is allocated, the source is left empty. -/
theorem move_with_equal_allocator (ew : EWorld) (ps : List Param) (a b alloc : Nat) (ea : ElemSt) (hab : a ≠ b)
    (ha : ew.elems a = some ea) (heq : ew.w.acfg.eq alloc ea.ptr.alloc = true) :
    let ew' := ew.elemMoveA ps a b alloc
    ew'.elems b = some ⟨ea.val, ea.bytes, ⟨ea.ptr.blk, ea.ptr.units, ea.ptr.alloc⟩⟩ ∧
    (ew'.elems a).map (·.ptr.blk) = some none ∧ ew'.w.heap = ew.w.heap ∧ ew'.w.vecs = ew.w.vecs := by
  rw [EWorld.elemMoveA_eq, ha, Option.elim_some, if_pos heq, EWorld.elemMove_eq, ha]
  exact ⟨ew.setE_setE_fst _ _ hab, congrArg _ (EWorld.setE_self ..), rfl, rfl⟩

/-- ... with an unequal allocator: the new element holds the source's former values in a fresh block from the given
    allocator; the source keeps its own block and holds moved-from values. -/
theorem move_with_unequal_allocator (ew : EWorld) (ps : List Param) (a b alloc : Nat) (ea : ElemSt) (hab : a ≠ b)
    (ha : ew.elems a = some ea) (hne : ew.w.acfg.eq alloc ea.ptr.alloc = false) (hnf : ew.w.heap.fail = none) :
    let ew' := ew.elemMoveA ps a b alloc
    ew'.elems b = some ⟨ea.val, ea.bytes, ⟨some ew.w.heap.next, ea.ptr.units, alloc⟩⟩ ∧
    ew'.elems a = some { ea with val := movedValues ps ea.val } ∧ ew'.w.vecs = ew.w.vecs := by
  rw [EWorld.elemMoveA_eq, ha, Option.elim_some, if_neg (by rw [hne]; decide), if_neg (no_fault hnf)]
  exact ⟨ew.setE_setE_fst _ _ hab, EWorld.setE_self .., rfl⟩


/-- **Every history of element operations** — constructions from the three kinds of reference, copy and move construction,
    the allocator-extended constructors with equal and unequal allocators, copy and move assignment on all their branches
    (field-wise, stealing, re-allocating, in place; smaller into larger and larger into smaller), swap, destruction — with
    any allocation failing and the caller going on: the elements afterwards hold exactly the values that the same history
    yields on a map  name ↦ value | moved-from  (`EOp.aspec`), each live one in a block that is large enough (that no two share a block is ownership:
    `C07.vectors_and_elements_ownership`). -/
theorem history_of_element_operations (ps : List Param) (hl : ListOK ps) (ops : List EOp) (ew : EWorld) (A : Nat → Option AElem)
    (h0 : ew.w.threw = false) (h : EInv ps ew.elems A) (hv : EValid ps ew A ops) :
    EInv ps (erun ps ew ops).elems (earun ps ew A ops) :=
  EInv.history ps (storage_pos hl) ops ew A h0 h hv

/-- what the invariant means for what a caller can observe -/
theorem element_observations (ps : List Param) (elems : Nat → Option ElemSt) (A : Nat → Option AElem) (h : EInv ps elems A) (k : Nat) :
    (∀ v, A k = some (.live v) → ∃ es, elems k = some es ∧ es.val = v ∧ es.bytes = elemBytes ps v ∧ es.ptr.blk ≠ none ∧
      elemBytes ps v ≤ es.ptr.units * storageAl ps) ∧
    (A k = some .moved → ∃ es, elems k = some es ∧ es.ptr.blk = none) ∧
    (A k = none → elems k = none) := by
  refine ⟨?_, ?_, (h.none_iff k).mpr⟩
  · intro v hA
    obtain ⟨es, he, hr⟩ := h.get k hA
    exact ⟨es, he, hr.1, hr.bytes_eq, hr.blk, hr.bytes_eq ▸ hr.fits⟩
  · intro hA
    obtain ⟨es, he, hr⟩ := h.get k hA
    exact ⟨es, he, hr.1⟩

/-- the abstract operations say what the property says: a copy leaves its source, a (stealing) move empties it, assignment
    gives the target the source's value, swap exchanges -/
theorem abstract_spec_is_value_semantics (ps : List Param) (ew : EWorld) (A : Nat → Option AElem) (a b : Nat) (hab : a ≠ b) :
    ((EOp.copy a b).aspec ps ew A b = A a ∧ (EOp.copy a b).aspec ps ew A a = A a) ∧
    ((EOp.move a b).aspec ps ew A b = A a ∧ (EOp.move a b).aspec ps ew A a = some .moved) ∧
    ((EOp.assign a b).aspec ps ew A b = A a ∧ (EOp.assign a b).aspec ps ew A a = A a) ∧
    ((EOp.swap a b).aspec ps ew A a = A b ∧ (EOp.swap a b).aspec ps ew A b = A a) := by
  simp [EOp.aspec, eset, hab, Ne.symm hab]

/-- non-vacuity: a world with one element of `<u32, VaryingSize<u8>>`; the history copy-with-allocator, move-with-unequal-
    allocator, copy assignment, swap, destroy meets `EValid` -/
example :
    let ps : List Param := [⟨.plain, 4, 4, {}⟩, ⟨.varying, 1, 1, {}⟩]
    let e0 : ElemSt := ⟨[[2], [7, 8]], 6, ⟨some 1, 2, 1⟩⟩
    let ew : EWorld := { elems := fun k => if k = 0 then some e0 else none }
    let A : Nat → Option AElem := fun k => if k = 0 then some (.live [[2], [7, 8]]) else none
    EInv ps ew.elems A ∧ EValid ps ew A [.copyA 0 1 2, .moveA 0 2 2, .assign 1 2, .swap 1 2, .destroy 0] := by
  intro ps e0 ew A
  refine ⟨?_, ?_⟩
  · intro k
    by_cases hk : k = 0
    · subst hk
      show ERep ps e0 (.live [[2], [7, 8]])
      refine ⟨rfl, rfl, by decide +kernel, by decide, by simp [e0], by decide +kernel⟩
    · simp [ew, A, hk, ERel]
  · refine ⟨⟨⟨_, rfl⟩, rfl⟩, ⟨⟨_, rfl⟩, rfl⟩, Or.inr ⟨_, rfl, by decide, ?_⟩, Or.inr ⟨by decide, by decide⟩, trivial, trivial⟩
    intro hf
    exact absurd hf (by decide +kernel)

/-- element operations do not touch the vectors: here for copy assignment, swap, copy and move construction; `EOp.outcome` says
    it of every operation but the construction from an rvalue reference (which moves out of a vector element), and says
    which elements each writes.  That vector operations do not touch the elements is structural: they act on `EWorld.w`. -/
theorem independent (ew : EWorld) (ps : List Param) (a b : Nat) :
    (ew.elemAssign ps a b).w.vecs = ew.w.vecs ∧ (ew.elemSwap a b).w.vecs = ew.w.vecs ∧
    (ew.elemCopy ps a b).w.vecs = ew.w.vecs ∧ (ew.elemMove a b).w.vecs = ew.w.vecs :=
  -- none of the four is the construction from an rvalue reference (`nofun`)
  ⟨(EOp.assign a b).vecs_kept ps ew nofun, (EOp.swap a b).vecs_kept ps ew nofun,
    (EOp.copy a b).vecs_kept ps ew nofun, (EOp.move a b).vecs_kept ps ew nofun⟩

end Cntgs.C12
