/-
C04 — fields and elements are laid out in order, inside their element, without overlap.
-/
import Cntgs.LayoutProofs
namespace Cntgs.C04

/-- The objects of one element are stored in parameter order without overlap: each range starts at or
    after the end of the previous one, lies at or after the element start, and is non-negative. -/
theorem fields_ordered (ps : List Param) (counts : List Nat) (start : Nat)
    (hwf : ∀ p ∈ ps, WfParam p) (hne : ps ≠ []) (hc : CountsOK ps counts) (hs : storageAl ps ∣ start) :
    List.Pairwise (fun x y : Nat × Nat => x.2 ≤ y.1) (place ps counts start) ∧
    (∀ x ∈ place ps counts start, start ≤ x.1 ∧ x.1 ≤ x.2) := by
  rw [place_eq_greedy ps counts start hwf hne hc hs]
  exact greedyGo_ordered ps counts start hwf

/-- A span has exactly the count it was given: `end - start = sizeof(T) * count` for every parameter
    (`get_fixed_size<I>()` objects for FixedSize, the emplaced count for VaryingSize, one for plain). -/
theorem span_sizes (ps : List Param) (counts : List Nat) (start : Nat)
    (hwf : ∀ p ∈ ps, WfParam p) (hne : ps ≠ []) (hc : CountsOK ps counts) (hs : storageAl ps ∣ start) :
    ∀ x ∈ List.zip (List.zip ps counts) (place ps counts start), x.2.2 - x.2.1 = x.1.1.vb * x.1.2 := by
  rw [place_eq_greedy ps counts start hwf hne hc hs]
  exact greedyGo_sizes ps counts start

/-- `data_end()` of a reference (end of the last field) is the first free address of the placement
    and never precedes `data_begin()`. -/
theorem element_extent (ps : List Param) (counts : List Nat) (start : Nat)
    (hwf : ∀ p ∈ ps, WfParam p) (hne : ps ≠ []) (hc : CountsOK ps counts) (hs : storageAl ps ∣ start) :
    start ≤ placeEnd ps counts start := by
  unfold placeEnd
  cases h : (place ps counts start).getLast? with
  | none => exact Nat.le_refl _
  | some x =>
    have := (fields_ordered ps counts start hwf hne hc hs).2 x (List.mem_of_getLast? h)
    exact Nat.le_trans this.1 this.2

/-- The first field starts exactly at the element start (`reference.data_begin() == iterator.data()`):
    a storage-aligned start needs no padding in front of the first parameter. -/
theorem first_field_at_element_start (p : Param) (ps : List Param) (counts : List Nat) (start : Nat)
    (hwf : ∀ q ∈ p :: ps, WfParam q) (hc : CountsOK (p :: ps) counts) (hs : storageAl (p :: ps) ∣ start) :
    ((place (p :: ps) counts start).head?.map (·.1)) = some start := by
  rw [place_eq_greedy (p :: ps) counts start hwf (List.cons_ne_nil p ps) hc hs]
  cases counts with
  | nil => exact hc.elim
  | cons c cs =>
    have hd : p.al ∣ start := Nat.dvd_trans (al_dvd_storageAl (p :: ps) hwf p List.mem_cons_self) hs
    rw [greedyGo, alignUp_of_dvd _ _ (hwf p List.mem_cons_self).1.pos hd]
    rfl

example : (place [⟨.plain, 8, 8, {}⟩, ⟨.varying, 1, 1, {}⟩, ⟨.plain, 2, 1, {}⟩] [1, 7, 1] 24)
    = [(24, 32), (32, 39), (39, 41)] := by decide +kernel

end Cntgs.C04
