/-
C20 — every documented operation is available for every kind of parameter list (PARTIAL in Lean).

Lean carries the logic of the property: the categories partition all lists, every category has its public
constructors (also the allocator-extended ones) and each delegates to the one private constructor with the
right number of arguments, and the availability table is total. That a *required* cell is well-formed C++
is decided by compiling it: the finite matrix is enumerated completely by the check (`tools/special.py`, `c20_cells`).
-/
import Cntgs.Matrix
namespace Cntgs.C20

theorem _root_.Cntgs.fixedCount_le (ps : List Param) : fixedCount ps ≤ contiguousCount ps := by
  unfold fixedCount contiguousCount
  have : ps.filter (·.kind = .fixed) = (ps.filter (·.kind ≠ .plain)).filter (·.kind = .fixed) := by
    rw [List.filter_filter]; congr 1; funext p; cases p.kind <;> rfl
  rw [this]; exact List.length_filter_le _ _

/-- every parameter list falls into exactly one category -/
theorem category_partition (ps : List Param) :
    (isMixed ps = true ∧ isAllFixed ps = false ∧ isAllVarying ps = false ∧ isAllPlain ps = false) ∨
    (isMixed ps = false ∧ isAllFixed ps = true ∧ isAllVarying ps = false ∧ isAllPlain ps = false) ∨
    (isMixed ps = false ∧ isAllFixed ps = false ∧ isAllVarying ps = true ∧ isAllPlain ps = false) ∨
    (isMixed ps = false ∧ isAllFixed ps = false ∧ isAllVarying ps = false ∧ isAllPlain ps = true) := by
  have hle := fixedCount_le ps
  unfold isMixed isAllFixed isAllVarying isAllPlain
  generalize fixedCount ps = f, contiguousCount ps = c at hle
  -- no contiguous parameter: plain; else no fixed one: varying; else all of them fixed or not: fixed, mixed
  by_cases hc : c = 0
  · have hf : f = 0 := by omega
    simp [hc, hf]
  · by_cases hf : f = 0
    · simp [hc, hf]
    · by_cases hfc : f = c
      · simp [hfc, hc]
      · simp [hf, hfc, hc]

/-- every category has an allocator-extended constructor, and every public constructor passes exactly the
    arguments the private constructor takes (also the all-plain allocator overload) -/
theorem ctor_dispatch :
    (∀ c : Cat, ∃ k ∈ publicCtors, k.cat = c ∧ k.alloc = true) ∧
    (∀ k ∈ publicCtors, k.delegateArity = privateCtorArity) ∧
    (∀ k ∈ publicCtors, k.bytes = (k.cat == .mixed || k.cat == .varying) ∧ k.fixed = (k.cat == .mixed || k.cat == .fixed)) := by
  refine ⟨?_, by decide, by decide⟩
  intro c; cases c <;> decide

/-- the availability table is total over the matrix and only exempts copies of move-only values and
    `get_fixed_size` for lists without FixedSize -/
theorem availability (o : Op) (c : Cat) (v : ValCat) :
    required o c v = false → (o.needsCopy = true ∧ v = .moveOnly) ∨ (o = .getFixedSize ∧ (c = .plain ∨ c = .varying)) := by
  -- a cell is exempt because the copy test fails or because the operation does not apply to the category
  intro h
  unfold required at h
  by_cases hc : (!o.needsCopy || v != .moveOnly) = true
  · right
    rw [hc, Bool.and_true] at h
    unfold Op.appliesTo at h
    split at h
    · exact ⟨rfl, by revert h; cases c <;> decide⟩  -- `get_fixed_size`: the row of the table, category by category
    · cases h
  · left; simpa using hc

example : requiredCells.length = 600 := by decide +kernel

end Cntgs.C20
