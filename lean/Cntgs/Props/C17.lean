/-
C17 — allocation failure leaves everything valid and leak-free.
The fault position is universally quantified: `Heap.fail = some k` makes the k-th allocation from now throw,
for every k; every operation is a short sequence of pointer-level steps, each covered below.
-/
import Cntgs.WorldProofs
import Cntgs.ElemProofs
namespace Cntgs.C17

/-- a throwing allocation changes nothing in the ledger -/
theorem failed_allocation_is_clean (h : Heap) (a bytes : Nat) (k : BKind) (h' : Heap)
    (hal : h.allocate a bytes k = (h', none)) : h'.live = h.live ∧ h'.errs = h.errs ∧ h'.next = h.next := by
  -- the only answer `none` comes with the ledger `h.thrown`, which is `h` with the fault schedule cleared
  rw [allocate_eq] at hal
  split at hal <;> cases hal
  exact ⟨rfl, rfl, rfl⟩

/-- allocate-then-free (grow, both pointer assignments): if the allocation throws, the pointer still is
    what it was and still owns its block — nothing is freed twice later, nothing leaks -/
theorem reallocate_strong (h : Heap) (hw : h.WF) (c : ACfg) (unit newAlloc units : Nat) (p : Ptr) (hp : Owns h c unit p)
    (hthrow : (p.reallocate h c unit newAlloc units).2.2 = false) :
    (p.reallocate h c unit newAlloc units).2.1 = p ∧ (p.reallocate h c unit newAlloc units).1.live = h.live ∧
    (p.reallocate h c unit newAlloc units).1.errs = h.errs := by
  by_cases hf : h.fail = some 0
  · rw [reallocate_eq, if_pos hf]; exact ⟨rfl, rfl, rfl⟩
  · rw [reallocate_eq, if_neg hf] at hthrow; cases hthrow

/-- the owning pointer's copy assignment under a throwing allocator: block and size are untouched, the
    ledger is untouched, no error (a pointer that kept the already freed block here would free it twice) -/
theorem copy_assign_fault (h : Heap) (hw : h.WF) (c : ACfg) (unit : Nat) (p o : Ptr) (hp : Owns h c unit p)
    (hthrow : (p.copyAssign h c unit o).2.2 = false) :
    (p.copyAssign h c unit o).1.errs = h.errs ∧ (p.copyAssign h c unit o).1.live = h.live ∧
    (p.copyAssign h c unit o).2.1.blk = p.blk ∧ (p.copyAssign h c unit o).2.1.units = p.units := by
  obtain ⟨he, hr⟩ := copyAssign_spec h hw c unit p o hp
  rcases hr with ⟨h1, _⟩ | ⟨_, h2, h3, h4⟩
  · cases hthrow.symm.trans h1
  · exact ⟨he, h2, h3, h4⟩

/-- a data block plus offset table: when either allocation throws the ledger is exactly as before — the
    data block allocated first is returned when the offset table throws -/
theorem allocPair_fault (h : Heap) (hw : h.WF) (c : ACfg) (fixedLoc : Bool) (units unit alloc cap : Nat) (h' : Heap)
    (hf : allocPair h c fixedLoc units unit alloc cap = (h', none)) :
    h'.live = h.live ∧ h'.errs = h.errs :=
  have same : h.Same h' := (allocPair_none hf).2 hw
  ⟨same.live, same.errs⟩

theorem allocTable_fault (h : Heap) (fixedLoc : Bool) (alloc cap : Nat) (h' : Heap)
    (hf : allocTable h fixedLoc alloc cap = (h', none)) : h'.live = h.live ∧ h'.errs = h.errs ∧ h'.next = h.next := by
  rw [allocTable_eq] at hf
  split at hf
  · cases hf
  · split at hf <;> cases hf
    exact ⟨rfl, rfl, rfl⟩

/-- How the theorems on throwing operations below go: the `*_cases` lemma of the operation lists the worlds that can result.
    One case is the `Failed` step, which has changed nothing (`World.Failed.unchanged`); every other case names the resulting
    world `r`, and `r` has its flag down (or is the world before, whose flag was down): not the case at hand. -/
theorem flag_down {w' r : World} {C : Prop} (hthrow : w'.threw = true) (e : w' = r) (hr : r.threw = false) : C :=
  absurd ((e ▸ hthrow).symm.trans hr) nofun

/-- construction with a throwing allocator: no vector comes into being and the ledger is as before -/
theorem construction_fault (w : World) (k : Nat) (ps : List Param) (fs : List Nat) (cap bytes alloc : Nat)
    (hw : w.heap.WF) (hthrow : (w.new k ps fs cap bytes alloc).threw = true) :
    (w.new k ps fs cap bytes alloc).vecs = w.vecs ∧ (w.new k ps fs cap bytes alloc).heap.live = w.heap.live ∧
    (w.new k ps fs cap bytes alloc).heap.errs = w.heap.errs := by
  rcases w.new_cases k ps fs cap bytes alloc with hf | ⟨_, _, _, _, e⟩
  · exact hf.unchanged hw          -- the allocation threw
  · exact flag_down hthrow e rfl   -- the vector was made

/-- `reserve` with a throwing allocator leaves the vector and the ledger completely unchanged -/
theorem reserve_fault_unchanged (w : World) (k n b : Nat) (hw : w.heap.WF) (hthrow : (w.reserve k n b).threw = true)
    (hprev : w.threw = false) :
    (w.reserve k n b).vecs = w.vecs ∧ (w.reserve k n b).heap.live = w.heap.live ∧ (w.reserve k n b).heap.errs = w.heap.errs := by
  rcases w.reserve_cases k n b with e | e | ⟨_, _, _, hf | ⟨_, _, _, _, e⟩⟩
  · exact flag_down hthrow e hprev  -- no vector at `k`: nothing happened
  · exact flag_down hthrow e rfl    -- within the capacity: only the flag is cleared
  · exact hf.unchanged hw           -- the allocation threw
  · exact flag_down hthrow e rfl    -- the block was replaced

/-- copy construction with a throwing allocator leaves the source, every other vector and the ledger unchanged -/
theorem copy_fault_unchanged (w : World) (s d : Nat) (hw : w.heap.WF) (hthrow : (w.copy s d).threw = true)
    (hprev : w.threw = false) :
    (w.copy s d).vecs = w.vecs ∧ (w.copy s d).heap.live = w.heap.live ∧ (w.copy s d).heap.errs = w.heap.errs := by
  rcases w.copy_cases s d with ⟨_, e⟩ | hf | ⟨_, _, _, _, _, _, e⟩
  · exact flag_down hthrow e hprev  -- no source: nothing happened
  · exact hf.unchanged hw           -- the allocation threw
  · exact flag_down hthrow e rfl    -- the copy was made

/-- move assignment with a throwing allocator (only the element-wise branch allocates): both vectors, every other vector
    and the ledger are exactly as before -/
theorem move_assign_fault_unchanged (w : World) (s d : Nat) (hw : w.heap.WF) (hthrow : (w.moveAssign s d).threw = true)
    (hprev : w.threw = false) :
    (w.moveAssign s d).vecs = w.vecs ∧ (w.moveAssign s d).heap.live = w.heap.live ∧ (w.moveAssign s d).heap.errs = w.heap.errs := by
  rcases lookup_pair_cases w.vecs s d with ht | ⟨vs, vd, hsd, hs, hd⟩
  · exact absurd hthrow (World.binary_trivial (P := fun r => ¬r.threw = true) ht (by rw [hprev]; nofun) nofun).moveAssign
  · rcases World.moveAssign_cases hsd hs hd with ⟨_, e⟩ | ⟨_, hf | ⟨_, _, _, _, _, e⟩⟩
    · exact flag_down hthrow e rfl  -- the block was taken over
    · exact hf.unchanged hw         -- element-wise, and the allocation threw
    · exact flag_down hthrow e rfl  -- element-wise, done

/-- copy assignment with a throwing allocator (basic guarantee; `vector.hpp` as of `9d9da98`): the source and
    every other vector are unchanged; the target is a valid EMPTY vector: when the data block allocation itself threw it keeps block, size of
    the block and capacity, and the live blocks are exactly as before; when the offset table could not be allocated it owns the
    new block, with capacity 0 until the next reserve; no ledger error -/
theorem copy_assign_fault_world (w : World) (s d : Nat) (vs vd : Vec) (hw : w.heap.WF)
    (hvs : w.vecs s = some vs) (hvd : w.vecs d = some vd) (hsd : s ≠ d)
    (hown : Owns w.heap w.acfg vd.S vd.ptr) (hthrow : (w.copyAssign s d).threw = true) :
    (w.copyAssign s d).vecs s = some vs ∧ (∀ k, k ≠ d → (w.copyAssign s d).vecs k = w.vecs k) ∧
    (∃ vd', (w.copyAssign s d).vecs d = some vd' ∧ vd'.size = 0 ∧ vd'.fs = vd.fs ∧
      (vd'.cap = vd.cap ∧ vd'.ptr.blk = vd.ptr.blk ∧ vd'.ptr.units = vd.ptr.units ∧ (w.copyAssign s d).heap.live = w.heap.live ∨
       vd'.cap = 0 ∧ Owns (w.copyAssign s d).heap w.acfg vd.S vd'.ptr)) ∧
    (w.copyAssign s d).heap.errs = w.heap.errs := by
  -- all that matters of the cleared target `x`: it is empty, and `clear` leaves the frame, hence the owning pointer, alone
  have hx : Owns w.heap w.acfg vd.S vd.clear.ptr ∧ vd.clear.size = 0 ∧ SameFrame vd vd.clear := ⟨hown, clear_size vd, clear_frame vd⟩
  have hcs := World.copyAssign_cases hsd hvs hvd
  generalize vd.clear = x at hx hcs
  obtain ⟨hox, hsz, hfr⟩ := hx
  -- in the two throwing cases the world is `w` with a new vector at `d` and a new ledger (`e`), so the first two conjuncts
  -- and "the vector at `d`" are reads of `World.set` (`if_neg`, `if_pos`)
  rcases hcs with ⟨h1, p1, hc, e⟩ | ⟨h1, p1, h2, hc, ht, e⟩ | ⟨_, _, _, _, _, _, e⟩
  · rw [e]
    -- the pointer assignment threw: the ledger has only moved its fault schedule, the pointer at most adopted an equal allocator
    obtain ⟨_, rfl, rfl⟩ := copyAssign_false hc
    exact ⟨(if_neg hsd).trans hvs, fun k hk => if_neg hk, ⟨_, if_pos rfl, hsz, hfr.fs,
      Or.inl ⟨hfr.cap, (x.ptr.adopt_blk _ _).trans hfr.blk, (x.ptr.adopt_units _ _).trans hfr.units, rfl⟩⟩, rfl⟩
  · rw [e]
    -- the pointer owns its new block, and the failed offset table leaves the blocks alone
    obtain ⟨_, herrs, howns⟩ := (Ptr.copyAssign_step hw hox vs.ptr).sound hw
    rw [hc] at herrs howns
    have hs : h1.Same h2 := (allocTable_none ht).1
    exact ⟨(if_neg hsd).trans hvs, fun k hk => if_neg hk, ⟨_, if_pos rfl, hsz, hfr.fs, Or.inr ⟨rfl, hs.owns howns⟩⟩,
      hs.errs.trans herrs⟩
  · exact flag_down hthrow e rfl

/-- **every history over any number of vectors in which any allocation may throw**, the caller catching `bad_alloc` and going
    on: every vector keeps representing a plain sequence — a failed construction, copy construction or move
    assignment has changed nothing (the in-place operations of `WOp` and swap never allocate), a failed copy assignment has emptied its target — and all
    later operations behave as on those sequences (no live object clobbered, no bookkeeping left half-updated) -/
theorem history_with_allocation_failures (ps : List Param) (hl : ListOK ps) (ops : List WOp) (w : World) (A : Nat → Option AVec)
    (h0 : w.threw = false) (h : WInv ps w A) (hv : WValidF ps w A ops) :
    WInv ps (wrunF ps w ops) (arunF ps w A ops) :=
  history_refines_with_failures ps hl ops w A h hv

/-- one failing step: the abstract map is unchanged (copy assignment: the target is emptied) -/
theorem failed_step (ps : List Param) (hl : ListOK ps) (w : World) (A : Nat → Option AVec) (h : WInv ps w A) (op : WOp)
    (hpre : op.Pre ps w A) (hprev : w.threw = false) (hthrow : (op.apply ps w).threw = true) :
    WInv ps (op.apply ps w) (op.aspecFail A) := by
  simpa only [hthrow, if_true] using step_refines_any ps hl w A h op hpre


/-- what a failed element operation may have changed: nothing — the elements (values, sizes, blocks), the vectors and
    the ledger are as before -/
def ElemUntouched (ew ew' : EWorld) : Prop :=
  ew'.elems = ew.elems ∧ ew'.w.vecs = ew.w.vecs ∧ ew'.w.heap.live = ew.w.heap.live ∧ ew'.w.heap.errs = ew.w.heap.errs

/-- **every element operation but copy assignment**: when it throws it has changed nothing (`EOp.outcome`: only the fault
    schedule of the ledger has moved) -/
theorem element_fault (ps : List Param) (ew : EWorld) (op : EOp) (hop : ∀ a b, op ≠ .assign a b) (hprev : ew.w.threw = false)
    (hthrow : (op.apply ps ew).w.threw = true) : ElemUntouched ew (op.apply ps ew) := by
  rcases op.ending ps ew with e | e | e | ⟨a, b, e⟩
  · rw [e, hprev] at hthrow; cases hthrow  -- it did nothing: the flag is down as before
  · rw [e]; exact ⟨rfl, rfl, rfl, rfl⟩      -- it threw: `done` and `thrown` touch the flag and the fault schedule only
  · cases hthrow.symm.trans e               -- it ended without a throw
  · exact absurd e (hop a b)                -- copy assignment is excluded

/-- an element constructed from a reference (const, lvalue, or rvalue: `mv`): when the allocation throws no element
    comes into being and the referenced vector element has not been moved from -/
theorem element_from_reference_fault (ew : EWorld) (ps : List Param) (k s i alloc : Nat) (mv : Bool)
    (hthrow : (ew.elemFromRef ps k s i alloc mv).w.threw = true) (hprev : ew.w.threw = false) :
    ElemUntouched ew (ew.elemFromRef ps k s i alloc mv) :=
  element_fault ps ew (.fromRef k s i alloc mv) nofun hprev hthrow

/-- copy construction of an element (plain and allocator-extended) -/
theorem element_copy_fault (ew : EWorld) (ps : List Param) (a b : Nat) (hprev : ew.w.threw = false)
    (hthrow : (ew.elemCopy ps a b).w.threw = true) : ElemUntouched ew (ew.elemCopy ps a b) :=
  element_fault ps ew (.copy a b) nofun hprev hthrow

theorem element_copy_alloc_fault (ew : EWorld) (ps : List Param) (a b alloc : Nat) (hprev : ew.w.threw = false)
    (hthrow : (ew.elemCopyA ps a b alloc).w.threw = true) : ElemUntouched ew (ew.elemCopyA ps a b alloc) :=
  element_fault ps ew (.copyA a b alloc) nofun hprev hthrow

/-- allocator-extended move construction: only the branch for unequal allocators allocates; when that throws the source
    still holds its values and its block (the constructor is `noexcept` only for always-equal allocators) -/
theorem element_move_alloc_fault (ew : EWorld) (ps : List Param) (a b alloc : Nat) (hprev : ew.w.threw = false)
    (hthrow : (ew.elemMoveA ps a b alloc).w.threw = true) :
    ElemUntouched ew (ew.elemMoveA ps a b alloc) ∧
    ∃ ea, ew.elems a = some ea ∧ ew.w.acfg.eq alloc ea.ptr.alloc = false := by
  refine ⟨element_fault ps ew (.moveA a b alloc) nofun hprev hthrow, ?_⟩
  rw [EWorld.elemMoveA_eq] at hthrow
  cases hea : ew.elems a with
  | none => rw [hea, Option.elim_none, hprev] at hthrow; cases hthrow
  | some ea =>
    refine ⟨ea, rfl, Bool.eq_false_iff.mpr fun heq => ?_⟩
    -- with an equal allocator the block is taken over: nothing is allocated
    rw [hea, Option.elim_some, if_pos heq, EWorld.elemMove_eq, hea] at hthrow
    cases hthrow

/-- the plain move constructor and `swap` never allocate, so they never throw -/
theorem element_move_swap_nothrow (ew : EWorld) (a b : Nat) (hprev : ew.w.threw = false) :
    (ew.elemMove a b).w.threw = false ∧ (ew.elemSwap a b).w.threw = false := by
  refine ⟨?_, ?_⟩
  · exact elim_cases (P := fun r => r.w.threw = false) (EWorld.elemMove_eq ..) hprev fun _ _ => rfl
  · rcases lookup_pair_cases ew.elems a b with ht | ⟨ea, eb, hab, hea, heb⟩
    · exact (EWorld.binary_trivial (P := fun r => r.w.threw = false) ht hprev rfl).swap
    · rw [EWorld.elemSwap_some hab hea heb]; rfl

/-- copy assignment of an element with a throwing allocator (lists with a VaryingSize parameter, or propagating unequal
    allocators): the target still holds its former values in its former block — its fields are destroyed only after the
    allocation (destroyed first, they would be destroyed again by the destructor) — and the source, the
    vectors and the ledger are untouched -/
theorem element_copy_assign_fault (ew : EWorld) (ps : List Param) (a b : Nat) (ea eb : ElemSt)
    (ha : ew.elems a = some ea) (hb : ew.elems b = some eb) (hw : ew.w.heap.WF)
    (hown : Owns ew.w.heap ew.w.acfg (storageAl ps) eb.ptr) (hprev : ew.w.threw = false)
    (hthrow : (ew.elemAssign ps a b).w.threw = true) :
    let ew' := ew.elemAssign ps a b
    (∃ eb', ew'.elems b = some eb' ∧ eb'.val = eb.val ∧ eb'.bytes = eb.bytes ∧ eb'.ptr.blk = eb.ptr.blk ∧ eb'.ptr.units = eb.ptr.units) ∧
    (∀ k, k ≠ b → ew'.elems k = ew.elems k) ∧ ew'.w.vecs = ew.w.vecs ∧ ew'.w.heap.live = ew.w.heap.live ∧
    ew'.w.heap.errs = ew.w.heap.errs := by
  by_cases hab : a = b
  · exact absurd hthrow
      ((EWorld.binary_trivial (P := fun r => ¬r.w.threw = true) (.inl hab) (by rw [hprev]; nofun) nofun).assign ps)
  · revert hthrow
    refine EWorld.elemAssign_cases (P := fun r => r.w.threw = true →
      (∃ eb', r.elems b = some eb' ∧ eb'.val = eb.val ∧ eb'.bytes = eb.bytes ∧ eb'.ptr.blk = eb.ptr.blk ∧ eb'.ptr.units = eb.ptr.units) ∧
      (∀ k, k ≠ b → r.elems k = ew.elems k) ∧ r.w.vecs = ew.w.vecs ∧ r.w.heap.live = ew.w.heap.live ∧
      r.w.heap.errs = ew.w.heap.errs) hab ha hb ps (fun _ => nofun) (fun _ _ _ => ?throws) (fun _ _ _ _ => nofun)
    -- (the field-wise and the successful branch end with the flag down: `nofun`)
    -- only the fault schedule of the ledger has moved; the pointer may have taken over an equal allocator
    exact ⟨⟨_, ew.setE_self .., rfl, rfl, eb.ptr.adopt_blk _ _, eb.ptr.adopt_units _ _⟩, fun k hk => ew.setE_other _ hk, rfl, rfl, rfl⟩

/-- one failing element operation: whatever the operation and whatever the state (any history before it), the elements
    afterwards represent exactly what they represented before — no value lost, none duplicated, each live element still in
    a block of its own (the statement of `EInv.step` for the throwing case) -/
theorem element_failed_step (ps : List Param) (hl : ListOK ps) (ew : EWorld) (A : Nat → Option AElem) (h : EInv ps ew.elems A)
    (op : EOp) (hpre : op.Pre ps ew A) (hprev : ew.w.threw = false) (hthrow : (op.apply ps ew).w.threw = true) :
    EInv ps (op.apply ps ew).elems A := by
  have := EInv.step ps (storage_pos hl) ew A h op hpre hprev
  rwa [hthrow, if_pos rfl] at this

/-- histories of element operations in which any allocation may throw and the caller goes on: see
    `C12.history_of_element_operations`; here for the record that `earun` leaves the abstract map unchanged at every
    throwing step -/
theorem element_history_with_allocation_failures (ps : List Param) (hl : ListOK ps) (ops : List EOp) (ew : EWorld)
    (A : Nat → Option AElem) (h0 : ew.w.threw = false) (h : EInv ps ew.elems A) (hv : EValid ps ew A ops) :
    EInv ps (erun ps ew ops).elems (earun ps ew A ops) :=
  EInv.history ps (storage_pos hl) ops ew A h0 h hv

theorem earun_failed_step (ps : List Param) (ew : EWorld) (A : Nat → Option AElem) (op : EOp) (ops : List EOp)
    (hthrow : (op.apply ps ew).w.threw = true) :
    earun ps ew A (op :: ops) = earun ps { (op.apply ps ew) with w := { (op.apply ps ew).w with threw := false } } A ops := by
  simp [earun, hthrow]

end Cntgs.C17
