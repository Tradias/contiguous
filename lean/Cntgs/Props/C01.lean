/-
C01 — a vector behaves like a plain sequence of tuples under any operation history.

`VOp.apply` is the model of the code's operations on the bookkeeping (offset table / end marker, or count / stride)
and on the block; `VOp.spec` is the same operation on an ordinary `List` of tuples.  `Vec.abs` is what `operator[]`,
`front()/back()`, iteration and `get<I>` read: through the locator, out of the block.

Proven for every history (any length, any interleaving) and every parameter list.  Lists without VaryingSize (stride
locator): all value types.  Lists with VaryingSize (offset-table locator): value types that take the `memmove`
relocation path (`_partial`), and all value types on histories in which no erase relocates an element over its own
storage (`_no_overlap`; `VarInv.history_noreloc`, erases that end at the end of the vector, is a special case up to empty erases).  For the remaining
histories the element-wise relocation of erase on this locator genuinely fails (known finding
KF-C06-overlapping-elementwise-relocation).
-/
import Cntgs.FixProofs
import Cntgs.VarRelocProofs
import Cntgs.Dec
namespace Cntgs.C01

/-- the observable state of a vector: size(), empty(), capacity(), and every element read through the locator -/
structure Obs where
  size : Nat
  empty : Bool
  capacity : Nat
  elems : List (Option Elem)
  deriving DecidableEq

def obs (v : Vec) : Obs := ⟨v.size, v.size == 0, v.cap, v.abs⟩

/-- the same observations on an ordinary sequence of tuples with a capacity counter -/
def specObs (es : List Elem) (cap : Nat) : Obs := ⟨es.length, es.isEmpty, cap, es.map some⟩

/-- capacity under the operations: only `reserve` beyond the capacity changes it -/
def capSpec (cap : Nat) : VOp → Nat
  | .reserve n _ => max cap n
  | _ => cap

theorem apply_cap (junk : Nat → Nat) (v : Vec) (op : VOp) : (op.apply junk v).cap = capSpec v.cap op := by
  cases op with
  | reserve n b =>
    show (v.reserve n b junk).cap = max v.cap n
    by_cases h : v.cap < n
    · rw [reserve_cap v n b junk h, Nat.max_eq_right (Nat.le_of_lt h)]
    · rw [reserve_noop v n b junk (Nat.le_of_not_lt h), Nat.max_eq_left (Nat.le_of_not_lt h)]
  | _ => exact (apply_frame junk v _ (fun _ _ h => VOp.noConfusion h)).cap

theorem history_cap (junk : Nat → Nat) (ops : List VOp) (v : Vec) :
    (ops.foldl (VOp.apply junk) v).cap = ops.foldl capSpec v.cap := by
  induction ops generalizing v with
  | nil => rfl
  | cons op ops ih => simp only [List.foldl_cons]; rw [ih, apply_cap]

theorem obs_of_canon {v : Vec} {es : List Elem} (h : Canon v es) : obs v = specObs es v.cap := by
  simp only [obs, specObs, h.size_eq, h.abs_eq, Obs.mk.injEq, true_and, and_true]
  cases es <;> simp

/-- how the three history theorems below read the invariant that holds after the history: the observations are those of the
    represented sequence, the capacity is the one `history_cap` computes, nothing was clobbered -/
theorem obs_after_history (junk : Nat → Nat) (ops : List VOp) (v : Vec) {es : List Elem}
    (h : Canon (ops.foldl (VOp.apply junk) v) es) :
    obs (ops.foldl (VOp.apply junk) v) = specObs es (ops.foldl capSpec v.cap) ∧ (ops.foldl (VOp.apply junk) v).poison = false := by
  rw [obs_of_canon h, history_cap]
  exact ⟨rfl, h.clean⟩

/-- **Lists with a VaryingSize parameter** (offset-table locator): after construction and any valid history the
    observations equal those of the plain sequence subjected to the same operations; no live element was overwritten. -/
theorem history_offset_table_partial (ps : List Param) (fs : List Nat) (cap bytes : Nat) (junk : Nat → Nat)
    (hl : ListOK ps) (hnf : isFixedOrPlain ps = false) (ht : (Vec.new ps fs cap bytes junk).trivialReloc = true)
    (ops : List VOp) (hv : Valid ps [] ops) :
    obs (ops.foldl (VOp.apply junk) (Vec.new ps fs cap bytes junk)) = specObs (ops.foldl VOp.spec []) (ops.foldl capSpec cap) ∧
    (ops.foldl (VOp.apply junk) (Vec.new ps fs cap bytes junk)).poison = false :=
  obs_after_history junk ops _ ((VarInv.new ps fs cap bytes junk hl hnf).history ht junk ops hv).canon

/-- **Lists with a VaryingSize parameter, all value types**: the same statement for every history in which no erase
    relocates an element over its own storage (`VOp.NoOverlap`: no element behind the erased range is larger than the
    storage-aligned bytes erased).  The excluded histories are those of the known finding, and the erases of an empty range in front of a tail
    (`NoOverlap` is stated without `i < j`), on which the code is right. -/
theorem history_offset_table_no_overlap (ps : List Param) (fs : List Nat) (cap bytes : Nat) (junk : Nat → Nat)
    (hl : ListOK ps) (hnf : isFixedOrPlain ps = false) (ops : List VOp) (hv : ValidNoOverlap ps [] ops) :
    obs (ops.foldl (VOp.apply junk) (Vec.new ps fs cap bytes junk)) = specObs (ops.foldl VOp.spec []) (ops.foldl capSpec cap) ∧
    (ops.foldl (VOp.apply junk) (Vec.new ps fs cap bytes junk)).poison = false :=
  obs_after_history junk ops _ ((VarInv.new ps fs cap bytes junk hl hnf).history_all junk ops hv).canon

/-- preconditions for a list without VaryingSize: the FixedSize fields of a new element have the vector's fixed sizes -/
def PreFixed (ps : List Param) (fs : List Nat) (es : List Elem) (op : VOp) : Prop :=
  op.Pre ps es ∧ (match op with | .emplace e => elemCounts e = fixedCounts ps fs | _ => True)

def ValidFixed (ps : List Param) (fs : List Nat) : List Elem → List VOp → Prop
  | _, [] => True
  | es, op :: ops => PreFixed ps fs es op ∧ ValidFixed ps fs (op.spec es) ops

theorem validFix_of_counts (ps : List Param) (fs : List Nat) (hl : ListOK ps) (hf : isFixedOrPlain ps = true)
    (hlf : ps.length ≤ fs.length) (ops : List VOp) : ∀ es, ValidFixed ps fs es ops → ValidFix ps (elemSize ps fs).stride es ops := by
  induction ops with
  | nil => intro es _; trivial
  | cons op ops ih =>
    intro es hv
    refine ⟨⟨hv.1.1, ?_⟩, ih _ hv.2⟩
    cases op with
    | emplace e => exact fixed_fit ps fs hl hf hlf e hv.1.2
    | _ => trivial

/-- **Lists without a VaryingSize parameter** (stride locator): the same statement, for **all** value types — both the
    `memmove` path and the element-wise relocation path of erase are covered (`FixInv.history_all`). -/
theorem history_stride (ps : List Param) (fs : List Nat) (cap bytes : Nat) (junk : Nat → Nat)
    (hl : ListOK ps) (hf : isFixedOrPlain ps = true) (hlf : ps.length ≤ fs.length)
    (ops : List VOp) (hv : ValidFixed ps fs [] ops) :
    obs (ops.foldl (VOp.apply junk) (Vec.new ps fs cap bytes junk)) = specObs (ops.foldl VOp.spec []) (ops.foldl capSpec cap) ∧
    (ops.foldl (VOp.apply junk) (Vec.new ps fs cap bytes junk)).poison = false :=
  obs_after_history junk ops _
    ((FixInv.new ps fs cap bytes junk hl hf hlf).history_all junk ops (validFix_of_counts ps fs hl hf hlf ops [] hv)).canon

/-- `erase` returns the iterator to the element that followed the erased ones: position `i` of the result holds
    what was at position `j` -/
theorem erase_returns_follower (es : List Elem) (i j : Nat) (hij : i ≤ j) (hj : j ≤ es.length) :
    (VOp.spec es (.eraseRange i j))[i]? = es[j]? ∧ (VOp.spec es (.erase i))[i]? = es[i + 1]? := by
  have h1 : (es.take i).length = i := List.length_take_of_le (Nat.le_trans hij hj)
  constructor
  · simp only [VOp.spec]
    rw [List.getElem?_append_right (Nat.le_of_eq h1), h1, Nat.sub_self, List.getElem?_drop]; rfl
  · simp only [VOp.spec]
    rw [List.getElem?_append_right (Nat.le_of_eq h1), h1, Nat.sub_self, List.getElem?_drop]

/-! non-vacuity: a concrete list (`uint32`, VaryingSize<AlignAs<float,16>>, `uint8`) and a history that erases in front
    of a differently sized element and emplaces afterwards meet the hypotheses -/
def exPs : List Param := [⟨.plain, 4, 4, {}⟩, ⟨.varying, 4, 16, {}⟩, ⟨.plain, 1, 1, {}⟩]
def exOps : List VOp := [.emplace [[1], [7], [3]], .emplace [[3], [7, 8, 9], [4]], .emplace [[2], [5, 6], [1]], .erase 0,
  .emplace [[0], [], [9]], .reserve 9 100, .pop, .eraseRange 0 1, .clear]

example : Valid exPs [] exOps := by
  simp only [exOps, Valid, VOp.Pre, VOp.spec, EOK, esz, elemCounts]
  decide +kernel

/-- the remaining hypotheses of `history_offset_table_partial` for that list: well-formed, has a VaryingSize parameter,
    takes the memmove path -/
example : ListOK exPs ∧ isFixedOrPlain exPs = false ∧ (Vec.new exPs [0, 0, 0] 4 100 (fun _ => 0)).trivialReloc = true := by
  refine ⟨⟨?_, by decide⟩, by decide, by decide⟩
  intro p hp
  simp only [exPs, List.mem_cons, List.mem_nil_iff, or_false] at hp
  rcases hp with rfl | rfl | rfl
  · exact ⟨⟨2, rfl⟩, by decide⟩
  · exact ⟨⟨4, rfl⟩, by decide⟩
  · exact ⟨⟨0, rfl⟩, by decide⟩

/-- … and a list without VaryingSize with a history that erases in the middle (`FixedSize<AlignAs<u16,8>>`, `u8`; fixed
    size 3) meets the hypotheses of `history_stride` -/
def exFixPs : List Param := [⟨.fixed, 2, 8, {}⟩, ⟨.plain, 1, 1, {}⟩]
def exFixOps : List VOp := [.emplace [[1, 2, 3], [7]], .emplace [[4, 5, 6], [8]], .emplace [[7, 8, 9], [9]], .erase 0, .reserve 5 0,
  .emplace [[0, 0, 0], [1]], .eraseRange 1 2, .pop, .clear]

example : ValidFixed exFixPs [3, 0] [] exFixOps ∧ isFixedOrPlain exFixPs = true := by
  constructor
  · simp only [exFixOps, ValidFixed, PreFixed, VOp.Pre, VOp.spec, EOK, esz, elemCounts]
    decide +kernel
  · decide

end Cntgs.C01
