/-
C11 — references and iterators are faithful proxies for the stored elements.
-/
import Cntgs.RefProofs
namespace Cntgs.C11

/-- Assigning one element reference to another of equal field sizes copies every field value — for every
    parameter list, i.e. every way the implementation coalesces runs of trivially assignable fields into
    one `memmove` and handles the others one by one. Holds for copy (`useMove = false`) and move. -/
theorem assign_copies_all_fields (ps : List Param) (useMove : Bool) (source target : Elem)
    (hs : source.length = ps.length) (ht : target.length = ps.length) :
    (refAssign ps useMove source target).2 = source := by
  rw [refAssign_eq ps useMove source target hs ht]

/-- copy assignment (from a const reference or an lvalue reference) leaves the source unchanged -/
theorem copy_assign_keeps_source (ps : List Param) (source target : Elem)
    (hs : source.length = ps.length) (ht : target.length = ps.length) :
    (refAssign ps false source target).1 = source := by
  rw [refAssign_eq ps false source target hs ht]; rfl

/-- move assignment (from an rvalue mutable reference): fields of trivially move-assignable type keep
    their value in the source, the others are moved from (the model leaves zeros) -/
theorem move_assign_source (ps : List Param) (source target : Elem) (j : Nat)
    (hs : source.length = ps.length) (ht : target.length = ps.length) (hj : j < ps.length) :
    (refAssign ps true source target).1.getD j [] =
      if predAt (·.ty.trivMoveAssign) ps j = true then source.getD j [] else zeros (source.getD j []) := by
  rw [refAssign_eq ps true source target hs ht]
  exact movedAssignValues_getD ps source hs j hj

/-- `swap` / `iter_swap` exchange the complete field values of the two elements, whatever mixture of
    byte-swapped runs and per-field swaps the run table prescribes -/
theorem swap_exchanges (ps : List Param) (a b : Elem) (ha : a.length = ps.length) (hb : b.length = ps.length) :
    refSwap ps a b = (b, a) := by
  have hok := runs_ok (·.ty.trivSwap) false ps
  -- step `k` exchanges the fields its table entry covers
  refine hok.fold_fields (fun _ st => (st.2, st.1)) _ ?_ a b b a ⟨ha, hb⟩ ⟨hb, ha⟩ (fun _ _ => rfl)
  intro k st hk ⟨h1, h2⟩
  unfold swapOne
  rw [runs_getD _ false ps k hk]
  cases runsGo (·.ty.trivSwap) false ps 0 0 (fun _ => .skip) k with
  | skip => exact ⟨⟨h1, h2⟩, fun j _ => ⟨False.elim, fun _ => rfl⟩⟩  -- covers nothing, does nothing
  | manual =>
    -- covers its own index only: `List.set k` on both sides puts the other's field `k` and leaves every other field (`getD_set`)
    have hk1 : k < st.1.length := h1.symm ▸ hk
    have hk2 : k < st.2.length := h2.symm ▸ hk
    refine ⟨⟨List.length_set.trans h1, List.length_set.trans h2⟩, fun j _ => ⟨fun h => ?_, fun h => ?_⟩⟩
    · cases (h : j = k)
      simp only [fields, getD_set _ _ _ _ hk1, getD_set _ _ _ _ hk2, if_true]
    · have hjk : j ≠ k := h
      simp only [fields, getD_set _ _ _ _ hk1, getD_set _ _ _ _ hk2, if_neg hjk]
  | upto last =>
    -- covers `k..last`: `swapFields` is a `copyFields` each way, which takes exactly these fields from the other side (`copyFields_getD`)
    refine ⟨⟨(copyFields_length ..).trans h1, (copyFields_length ..).trans h2⟩, fun j hj => ⟨fun h => ?_, fun h => ?_⟩⟩
    · have hc : k ≤ j ∧ j ≤ last := h
      simp only [fields, swapFields, copyFields_getD _ _ _ _ _ (h1 ▸ hj), copyFields_getD _ _ _ _ _ (h2 ▸ hj), hc, and_self, if_true]
    · have hc : ¬ (k ≤ j ∧ j ≤ last) := h
      simp only [fields, swapFields, copyFields_getD _ _ _ _ _ (h1 ▸ hj), copyFields_getD _ _ _ _ _ (h2 ▸ hj), hc, if_false]

/-- swapping twice restores both elements -/
theorem swap_involutive (ps : List Param) (a b : Elem) (ha : a.length = ps.length) (hb : b.length = ps.length) :
    refSwap ps (refSwap ps a b).1 (refSwap ps a b).2 = (a, b) := by
  rw [swap_exchanges ps a b ha hb]
  exact swap_exchanges ps b a hb ha

/-! iterator arithmetic and comparisons behave as for a random-access iterator over indices -/

-- `add`, `sub` keep the vector and act on the index; so these are the laws of `+` and `-` on `Int`
theorem iter_add_sub (it : Iter) (n : Int) : (it.add n).sub n = it ∧ (it.sub n).add n = it :=
  ⟨congrArg (Iter.mk it.vec) (Int.add_sub_cancel it.idx n), congrArg (Iter.mk it.vec) (Int.sub_add_cancel it.idx n)⟩

theorem iter_diff (it : Iter) (n : Int) : (it.add n).diff it = n ∧ it.diff (it.add n) = -n := by
  show it.idx + n - it.idx = n ∧ it.idx - (it.idx + n) = -n
  omega

theorem iter_diff_add (a b : Iter) (h : a.vec = b.vec) : b.add (a.diff b) = a := by
  have hidx : b.idx + (a.idx - b.idx) = a.idx := by omega
  show Iter.mk b.vec (b.idx + (a.idx - b.idx)) = a
  rw [← h, hidx]

theorem _root_.Cntgs.Iter.lt_eq (a b : Iter) (h : a.vec = b.vec) : a.lt b = decide (a.idx < b.idx) := by simp [Iter.lt, h]

/-- order and equality of iterators into one vector are order and equality of their indices -/
theorem iter_order (a b : Iter) (h : a.vec = b.vec) :
    (a.lt b = decide (a.idx < b.idx)) ∧ (a.gt b = decide (b.idx < a.idx)) ∧
    (a.le b = decide (a.idx ≤ b.idx)) ∧ (a.ge b = decide (b.idx ≤ a.idx)) ∧
    (a.eq b = decide (a.idx = b.idx)) := by
  have h1 := Iter.lt_eq a b h
  have h2 := Iter.lt_eq b a h.symm
  refine ⟨h1, h2, ?_, ?_, by simp [Iter.eq, h, BEq.beq]⟩
  · rw [Iter.le, Iter.gt, h2, ← decide_not]; exact decide_eq_decide.mpr Int.not_lt
  · rw [Iter.ge, h1, ← decide_not]; exact decide_eq_decide.mpr Int.not_lt

theorem iter_trichotomy (a b : Iter) (h : a.vec = b.vec) :
    (a.lt b = true ∧ a.eq b = false ∧ a.gt b = false) ∨ (a.lt b = false ∧ a.eq b = true ∧ a.gt b = false) ∨
    (a.lt b = false ∧ a.eq b = false ∧ a.gt b = true) := by
  obtain ⟨h1, h2, _, _, h5⟩ := iter_order a b h
  rw [h1, h2, h5]
  simp only [decide_eq_true_eq, decide_eq_false_iff_not]
  omega

/-- non-vacuity: a list that mixes trivially swappable and tracked fields (run table: manual, one run over fields 1 and 2, manual) -/
example :
    let ps : List Param := [⟨.plain, 5, 1, { trivSwap := false, trivMoveAssign := false }⟩, ⟨.plain, 2, 2, {}⟩, ⟨.fixed, 1, 1, {}⟩,
                            ⟨.plain, 8, 4, { trivSwap := false, trivMoveAssign := false }⟩]
    refSwap ps [[1], [2], [3, 4], [5]] [[6], [7], [8, 9], [10]] = ([[6], [7], [8, 9], [10]], [[1], [2], [3, 4], [5]]) ∧
    refAssign ps true [[1], [2], [3, 4], [5]] [[6], [7], [8, 9], [10]] = ([[0], [2], [3, 4], [0]], [[1], [2], [3, 4], [5]]) := by
  decide +kernel

end Cntgs.C11
