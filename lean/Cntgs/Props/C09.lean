/-
C09 — copy, move and swap have value semantics (multi-vector model `World`: vectors identified by a name `k`, each with
its own bookkeeping, block contents and owning pointer, over one allocator ledger).
-/
import Cntgs.Props.C01
import Cntgs.WorldProofs
import Cntgs.Dec
namespace Cntgs.C09

/-- what a vector shows through its public interface besides capacity: size, fixed sizes, every element -/
def contents (v : Vec) : Nat × List Nat × List (Option Elem) := (v.size, v.fs, v.abs)

/-- the target of a copy or an assignment after it received the source's contents shows them: the table is fresh (junk behind
    `size()`), the block contents are the same -/
theorem contents_received {vd vs : Vec} {t : Option Nat} {junk : Nat → Nat} (hps : vd.ps = vs.ps) :
    contents (vd.received vs t junk) = contents vs := by
  obtain ⟨_, hsize, _, haddr⟩ := relocated_obs (w := vd.received vs t junk) junk hps rfl
  unfold contents Vec.abs
  rw [hsize]
  exact congrArg (fun l => (vs.size, vs.fs, l))
    (List.map_congr_left fun i hi => congrArg vs.mem.read (haddr i (List.mem_range.mp hi)))

/-- **copy construction**: on success the new vector has the same size, fixed sizes, capacity and field values as the
    source, and the source (and every other vector) is unchanged -/
theorem copy_construction (w : World) (s d : Nat) (vs : Vec) (hs : w.vecs s = some vs) (hsd : s ≠ d)
    (hok : (w.copy s d).threw = false) :
    (∃ vd, (w.copy s d).vecs d = some vd ∧ contents vd = contents vs ∧ vd.cap = vs.cap) ∧
    (∀ k, k ≠ d → (w.copy s d).vecs k = w.vecs k) := by
  rcases w.copy_cases s d with ⟨hn, _⟩ | hf | ⟨vs', h1, p, t, hs', _, e⟩
  · cases hs.symm.trans hn
  · rw [hf.threw] at hok; cases hok
  · cases hs.symm.trans hs'
    rw [e]
    exact ⟨⟨_, if_pos rfl, contents_received rfl, rfl⟩, fun k hk => if_neg hk⟩

/-- a failed copy construction creates nothing and changes no vector -/
theorem copy_construction_failed (w : World) (s d : Nat) (hf : (w.copy s d).threw = true) :
    (w.copy s d).vecs = w.vecs := by
  rcases w.copy_cases s d with ⟨_, e⟩ | hf' | ⟨vs, h1, p, t, _, _, e⟩
  · rw [e]
  · exact hf'.vecs
  · rw [e] at hf; cases hf

/-- **independence**: an in-place operation on one vector changes no other vector (each has its own bookkeeping and
    block contents) -/
theorem independent (w : World) (k j : Nat) (f : Vec → Vec) (hkj : j ≠ k) : (w.upd k f).vecs j = w.vecs j := by
  cases hv : w.vecs k with
  | none => rw [World.upd_none f hv]
  | some v => rw [World.upd_some f hv]; exact if_neg hkj

/-- **move construction**: the target is exactly the source's former state (same block, same bookkeeping); the source
    is empty, owns nothing -/
theorem move_construction (w : World) (s d : Nat) (vs : Vec) (hs : w.vecs s = some vs) (hsd : s ≠ d) :
    (w.move s d).vecs d = some vs ∧
    (∃ v', (w.move s d).vecs s = some v' ∧ v'.size = 0 ∧ v'.abs = [] ∧ v'.blk = none ∧ v'.tbl = none ∧ v'.mem = []) := by
  rw [World.move_some d hs]
  have h0 : vs.movedFrom.size = 0 := movedFrom_size vs
  exact ⟨(if_neg (Ne.symm hsd)).trans (if_pos rfl), vs.movedFrom, if_pos rfl, h0, by simp [Vec.abs, h0], rfl, rfl, rfl⟩

/-- **swap** exchanges the complete contents (bookkeeping and block contents change places) -/
theorem swap_exchanges (w : World) (a b : Nat) (va vb : Vec) (ha : w.vecs a = some va) (hb : w.vecs b = some vb) (hab : a ≠ b) :
    (∃ va', (w.swap a b).vecs a = some va' ∧ contents va' = contents vb ∧ va'.cap = vb.cap) ∧
    (∃ vb', (w.swap a b).vecs b = some vb' ∧ contents vb' = contents va ∧ vb'.cap = va.cap) := by
  rw [World.swap_some hab ha hb]
  exact ⟨⟨_, (if_neg hab).trans (if_pos rfl), rfl, rfl⟩, ⟨_, if_pos rfl, rfl, rfl⟩⟩

/-- self-assignment and self-swap change nothing -/
theorem self_operations (w : World) (k : Nat) :
    (w.copyAssign k k).vecs = w.vecs ∧ (w.moveAssign k k).vecs = w.vecs ∧ (w.swap k k).vecs = w.vecs ∧
    (w.copyAssign k k).heap = w.heap ∧ (w.moveAssign k k).heap = w.heap ∧ (w.swap k k).heap = w.heap := by
  have h := World.binary_trivial (P := fun r => r.vecs = w.vecs ∧ r.heap = w.heap) (.inl (rfl : k = k)) ⟨rfl, rfl⟩ ⟨rfl, rfl⟩
  exact ⟨h.copyAssign.1, h.moveAssign.1, h.swap.1, h.copyAssign.2, h.moveAssign.2, h.swap.2⟩

/-- **copy assignment**: on success the target shows the source's contents and capacity; the source is unchanged -/
theorem copy_assignment (w : World) (s d : Nat) (vs vd : Vec) (hs : w.vecs s = some vs) (hd : w.vecs d = some vd) (hsd : s ≠ d)
    (hps : vd.ps = vs.ps) (hok : (w.copyAssign s d).threw = false) :
    (∃ vd', (w.copyAssign s d).vecs d = some vd' ∧ contents vd' = contents vs ∧ vd'.cap = vs.cap) ∧
    (w.copyAssign s d).vecs s = some vs := by
  rcases World.copyAssign_cases hsd hs hd with ⟨_, _, _, e⟩ | ⟨_, _, _, _, _, e⟩ | ⟨h1, p1, h2, t, _, _, e⟩ <;> rw [e] at hok ⊢
  · cases hok
  · cases hok
  · exact ⟨⟨_, if_pos rfl, contents_received hps, rfl⟩, (if_neg hsd).trans hs⟩

/-- **move assignment**, stealing branch (allocators equal or propagating): the target is the source's former state
    except for the owning pointer's allocator; the source is empty -/
theorem move_assignment_steal (w : World) (s d : Nat) (vs vd : Vec) (hs : w.vecs s = some vs) (hd : w.vecs d = some vd) (hsd : s ≠ d)
    (hsteal : (w.acfg.ae || w.acfg.pocma || w.acfg.eq vd.alloc vs.alloc) = true) :
    (∃ vd', (w.moveAssign s d).vecs d = some vd' ∧ contents vd' = contents vs ∧ vd'.cap = vs.cap ∧ vd'.mem = vs.mem) ∧
    (∃ vs', (w.moveAssign s d).vecs s = some vs' ∧ vs'.size = 0 ∧ vs'.mem = []) := by
  rcases World.moveAssign_cases hsd hs hd with ⟨_, e⟩ | ⟨hc, _⟩
  · rw [e]
    exact ⟨⟨_, (if_neg (Ne.symm hsd)).trans (if_pos rfl), rfl, rfl, rfl⟩, ⟨_, if_pos rfl, movedFrom_size vs, rfl⟩⟩
  · rw [hsteal] at hc; cases hc

/-- **move assignment**, element-wise branch (unequal non-propagating allocators): the target shows the source's
    former contents -/
theorem move_assignment_elementwise (w : World) (s d : Nat) (vs vd : Vec) (hs : w.vecs s = some vs) (hd : w.vecs d = some vd)
    (hsd : s ≠ d) (hps : vd.ps = vs.ps) (hsteal : (w.acfg.ae || w.acfg.pocma || w.acfg.eq vd.alloc vs.alloc) = false)
    (hok : (w.moveAssign s d).threw = false) :
    ∃ vd', (w.moveAssign s d).vecs d = some vd' ∧ contents vd' = contents vs ∧ vd'.cap = vs.cap := by
  rcases World.moveAssign_cases hsd hs hd with ⟨hc, _⟩ | ⟨_, hf | ⟨_, _, t, _, _, e⟩⟩
  · rw [hsteal] at hc; cases hc
  · rw [hf.threw] at hok; cases hok
  · rw [e]; exact ⟨_, (if_neg (Ne.symm hsd)).trans (if_pos rfl), contents_received hps, rfl⟩

/-- a moved-from vector holds no block (its destruction frees nothing) and clears to size 0; that it can be assigned to is
    `moved_from_is_an_empty_vector` with the step theorems -/
theorem moved_from_usable (v : Vec) : v.movedFrom.clear.size = 0 ∧ v.movedFrom.ptr.blk = none :=
  ⟨clear_size _, rfl⟩

/-- **a moved-from vector is an empty vector** (no block, no capacity, the locator refers to no memory: `vector.hpp` as of
    `4a55bf7`): it represents the empty sequence exactly as a vector that never held an element does, so it can be the
    source and the target of every operation, be reserved and filled, and every history theorem covers it -/
theorem moved_from_is_an_empty_vector (ps : List Param) (hl : ListOK ps) (v : Vec) (a : AVec) (h : VInv ps v a) :
    VInv ps v.movedFrom (.live []) ∧ v.movedFrom.cap = 0 ∧ v.movedFrom.ptr.blk = none :=
  ⟨moved_is_empty hl (movedFrom_inv h), rfl, rfl⟩

/-- in the abstract map of `history_any_number_of_vectors` a moved-from name may be read as the empty sequence: the
    preconditions "the source is live" of copy construction and of both assignments are then met by moved-from sources -/
theorem moved_from_sources (ps : List Param) (hl : ListOK ps) (w : World) (A : Nat → Option AVec) (h : WInv ps w A) (k : Nat)
    (hk : A k = some .moved) : WInv ps w (aset A k (some (.live []))) :=
  h.moved_as_empty hl k hk

/-- a vector that received the bookkeeping through a relocating locator constructor represents the same element sequence
    in the same canonical layout: every history theorem (C01, C06, C10, C16, C18) applies to a copy as to its source -/
theorem relocated_offset_table {v w : Vec} {es : List Elem} (h : VarInv v es) (junk : Nat → Nat) (hps : w.ps = v.ps)
    (hmem : w.mem = v.mem) (hloc : w.loc = v.loc.relocated junk) (hpo : w.poison = false) : VarInv w es :=
  (inv1_iff.mp (Inv1.relocated (Or.inl h) junk hps hmem hloc hpo)).toVar ((fixedLoc_congr hps).trans h.notFixed)

theorem relocated_stride {v w : Vec} {es : List Elem} (h : FixInv v es) (junk : Nat → Nat) (hps : w.ps = v.ps)
    (hmem : w.mem = v.mem) (hloc : w.loc = v.loc.relocated junk) (hpo : w.poison = false) : FixInv w es :=
  (inv1_iff.mp (Inv1.relocated (Or.inr h) junk hps hmem hloc hpo)).toFix ((fixedLoc_congr hps).trans h.isFixed)

/-- **copy construction yields a vector in canonical layout** (offset-table locator) -/
theorem copy_is_canonical (w : World) (s d : Nat) (vs : Vec) (es : List Elem) (hs : w.vecs s = some vs) (hinv : VarInv vs es)
    (hok : (w.copy s d).threw = false) : ∃ vd, (w.copy s d).vecs d = some vd ∧ VarInv vd es := by
  rcases w.copy_cases s d with ⟨hn, _⟩ | hf | ⟨vs', h1, p, t, hs', _, e⟩
  · cases hs.symm.trans hn
  · rw [hf.threw] at hok; cases hok
  · cases hs.symm.trans hs'
    rw [e]
    exact ⟨_, if_pos rfl, relocated_offset_table hinv w.junk rfl rfl rfl hinv.clean⟩

/-- **refinement of the whole multi-vector interface**: after any history of constructions, in-place operations,
    copy/move constructions, copy/move assignments, swaps and destructions over any number of vectors (preconditions
    respected, no allocation failure: those are C17), every vector represents exactly the plain sequence that the same
    history produces on a map from names to plain sequences.  Copy, move and swap having value semantics is this theorem
    read at `.copy`, `.move`, `.copyAssign`, `.moveAssign`, `.swap`. -/
theorem history_any_number_of_vectors (ps : List Param) (hl : ListOK ps) (ops : List WOp) (w : World) (A : Nat → Option AVec)
    (h : WInv ps w A) (hv : WValid ps w A ops) :
    WInv ps (ops.foldl (fun w op => op.apply ps w) w) (arun ps w A ops) :=
  history_refines ps hl ops w A h hv

/-- … and what that means for the observations: every live vector shows exactly its abstract sequence, moved-from vectors are
    empty, and no live object was ever clobbered -/
theorem observations (ps : List Param) (w : World) (A : Nat → Option AVec) (h : WInv ps w A) (k : Nat) (v : Vec)
    (hv : w.vecs k = some v) :
    (∀ es, A k = some (.live es) → v.abs = es.map some ∧ v.size = es.length ∧ v.poison = false) ∧
    (A k = some .moved → v.size = 0 ∧ v.abs = [] ∧ v.poison = false) := by
  have hk := h k
  rw [hv] at hk
  constructor
  · intro es hes
    rw [hes] at hk
    have hc := inv1_iff.mp hk.2
    exact ⟨hc.abs_eq, hc.size_eq, hc.clean⟩
  · intro hm
    rw [hm] at hk
    obtain ⟨_, _, hsz, hpo, _⟩ := hk
    exact ⟨hsz, by simp [Vec.abs, hsz], hpo⟩

/-- non-vacuity: construct `v0`, fill it, copy it to `v1`, change the copy, swap both, move `v1` to `v2`
    (`uint32`, VaryingSize<AlignAs<float,16>>, `uint8`): all preconditions hold and no allocation fails -/
def exOps : List WOp := [.new 0 [0, 0, 0] 3 64 1, .vop 0 (.emplace [[1], [7], [3]]), .vop 0 (.emplace [[2], [5, 6], [1]]), .copy 0 1,
  .vop 1 .pop, .swap 0 1, .move 1 2, .destroy 0]

example : (exOps.foldl (fun w op => op.apply C01.exPs w) ({} : World)).threw = false ∧
    (arun C01.exPs ({} : World) (fun _ => none) exOps 2) matches some (.live [[[1], [7], [3]], [[2], [5, 6], [1]]]) := by
  constructor
  · decide +kernel
  · decide +kernel

end Cntgs.C09
