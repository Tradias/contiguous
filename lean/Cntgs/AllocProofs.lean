/-
Ledger discipline of the owning pointer (C07, C08, C17): every deallocation hits a live block of the
recorded size through an equal allocator; allocators propagate as the traits say.

Each request to the ledger is characterised once, by an equation that branches on `h.fail = some 0` (the next allocation
throws): `allocate_eq`, `make_eq`, `allocTable_eq`, `reallocate_eq`, `copyAssign_eq`.  The two ledgers such a request can
leave are `h.thrown` and `h.grown ..`; how they sit to `h` is said by `Heap.Same` (the same blocks and errors),
`Heap.Tables` (offset tables added) and `Heap.Fresh` (one data block added, for the returned pointer).  The composite
requests (`allocPair`, and the pointer inside a world: `PtrStep`) are stated in these relations.
-/
import Cntgs.World
namespace Cntgs

theorem ite_cases {α : Sort _} {P : α → Prop} {c : Prop} [Decidable c] {x y : α} (hx : c → P x) (hy : ¬c → P y) :
    P (if c then x else y) := by
  by_cases h : c
  · rw [if_pos h]; exact hx h
  · rw [if_neg h]; exact hy h

/-- turns an equation `r = o.elim d f` (the shape of the `EWorld.elem*_eq`) into a case analysis of `o` -/
theorem elim_cases {α β : Type} {P : β → Prop} {o : Option α} {r d : β} {f : α → β} (e : r = o.elim d f) (hd : P d)
    (hf : ∀ x, o = some x → P (f x)) : P r := by
  subst e
  cases o with
  | none => exact hd
  | some x => exact hf x rfl

/-- serial numbers are fresh and distinct -/
def Heap.WF (h : Heap) : Prop := (∀ b ∈ h.live, b.serial < h.next) ∧ (h.live.map (·.serial)).Nodup

/-- the pointer owns a live block of exactly its recorded size, allocated by an allocator equal to its own -/
def Owns (h : Heap) (c : ACfg) (unit : Nat) (p : Ptr) : Prop :=
  match p.blk with
  | none => True
  | some s => ∃ b ∈ h.live, b.serial = s ∧ b.bytes = p.units * unit ∧ c.eq b.alloc p.alloc = true

theorem ACfg.eq_refl (c : ACfg) (a : Nat) : c.eq a a = true := by simp [ACfg.eq]

theorem ACfg.eq_symm {c : ACfg} {a b : Nat} (h : c.eq a b = true) : c.eq b a = true := by
  simp only [ACfg.eq, Bool.or_eq_true, beq_iff_eq] at h ⊢
  exact h.imp id Eq.symm

theorem ACfg.eq_trans {c : ACfg} {a b d : Nat} (h1 : c.eq a b = true) (h2 : c.eq b d = true) : c.eq a d = true := by
  simp only [ACfg.eq, Bool.or_eq_true, beq_iff_eq] at h1 h2 ⊢
  exact h1.elim Or.inl fun e => h2.imp id e.trans

theorem ACfg.eq_of_ae {c : ACfg} (h : c.ae = true) (a b : Nat) : c.eq a b = true := by
  simp only [ACfg.eq, h, Bool.true_or]

theorem Heap.find_of_mem (h : Heap) (hw : h.WF) (b : Blk) (hb : b ∈ h.live) : h.find b.serial = some b := by
  obtain ⟨_, hnd⟩ := hw
  unfold Heap.find
  generalize h.live = l at hb hnd
  induction l with
  | nil => cases hb
  | cons x xs ih =>
    simp only [List.map_cons, List.nodup_cons] at hnd
    rcases List.mem_cons.mp hb with rfl | hb
    · exact List.find?_cons_of_pos (beq_self_eq_true _)
    · have hne : x.serial ≠ b.serial := fun e => hnd.1 (e ▸ List.mem_map_of_mem hb)
      rw [List.find?_cons_of_neg (by simpa using hne)]
      exact ih hb hnd.2

theorem owns_null {h : Heap} {c : ACfg} {u : Nat} {p : Ptr} (hp : p.blk = none) : Owns h c u p := by
  simp only [Owns, hp]

theorem owns_lt {h : Heap} {c : ACfg} {u : Nat} {p : Ptr} (hw : h.WF) (ho : Owns h c u p) {s : Nat} (hs : p.blk = some s) :
    s < h.next := by
  unfold Owns at ho
  rw [hs] at ho
  obtain ⟨b, hb, rfl, _⟩ := ho
  exact hw.1 b hb

theorem owns_mono {h h' : Heap} {c : ACfg} {u : Nat} {p : Ptr} (ho : Owns h c u p) (hl : ∀ x, x ∈ h.live → x ∈ h'.live) :
    Owns h' c u p := by
  unfold Owns at *
  split at ho
  · trivial
  · obtain ⟨x, hx, hr⟩ := ho
    exact ⟨x, hl x hx, hr⟩

theorem owns_propagate (h : Heap) (c : ACfg) (unit : Nat) (p : Ptr) (a : Nat) (hp : Owns h c unit p)
    (heq : c.eq p.alloc a = true) : Owns h c unit { p with alloc := a } := by
  unfold Owns at hp ⊢
  cases hbk : p.blk with
  | none => trivial
  | some s =>
    simp only [hbk] at hp ⊢
    obtain ⟨x, hx, h1, h2, h3⟩ := hp
    exact ⟨x, hx, h1, h2, c.eq_trans h3 heq⟩

/-- the pointer a stealing move assignment leaves in the target (the source's block; the source's allocator with POCMA, else the
    target's own allocator `a`, which is equal) owns what the source owned -/
theorem owns_stolen {h : Heap} {c : ACfg} {u : Nat} {o : Ptr} (a : Nat) (ho : Owns h c u o)
    (hst : (c.ae || c.pocma || c.eq a o.alloc) = true) : Owns h c u ⟨o.blk, o.units, if c.pocma then o.alloc else a⟩ := by
  cases hpm : c.pocma with
  | true => exact ho
  | false =>
    rw [hpm, Bool.or_false, Bool.or_eq_true] at hst
    exact owns_propagate h c u o a ho (hst.elim (c.eq_of_ae · _ _) ACfg.eq_symm)

/-- the same live blocks and errors, serial counter not lowered: what a request that threw leaves, and what giving back the
    block allocated last restores (`dealloc_fresh`) -/
structure Heap.Same (h h' : Heap) : Prop where
  live : h'.live = h.live
  errs : h'.errs = h.errs
  next : h.next ≤ h'.next

theorem Heap.Same.refl (h : Heap) : h.Same h := ⟨rfl, rfl, Nat.le_refl _⟩

theorem Heap.Same.wf {h h' : Heap} (s : h.Same h') (hw : h.WF) : h'.WF :=
  ⟨fun b hb => Nat.lt_of_lt_of_le (hw.1 b (s.live ▸ hb)) s.next, s.live ▸ hw.2⟩

theorem Heap.Same.owns {h h' : Heap} (s : h.Same h') {c : ACfg} {u : Nat} {p : Ptr} (ho : Owns h c u p) : Owns h' c u p :=
  owns_mono ho (fun _ hx => s.live ▸ hx)

/-- `h'` is `h` with offset tables added -/
structure Heap.Tables (h h' : Heap) : Prop where
  wf : h'.WF
  errs : h'.errs = h.errs
  sub : ∀ x, x ∈ h.live → x ∈ h'.live
  new : ∀ x ∈ h'.live, x ∈ h.live ∨ x.kind = .table

theorem Heap.Same.tables {h h' : Heap} (s : h.Same h') (hw : h.WF) : h.Tables h' :=
  ⟨s.wf hw, s.errs, fun _ hx => s.live ▸ hx, fun _ hx => Or.inl (s.live ▸ hx)⟩

theorem Heap.Tables.refl {h : Heap} (hw : h.WF) : h.Tables h := (Heap.Same.refl h).tables hw

theorem Heap.Tables.trans {h1 h2 h3 : Heap} (a : h1.Tables h2) (b : h2.Tables h3) : h1.Tables h3 :=
  ⟨b.wf, b.errs.trans a.errs, fun x hx => b.sub x (a.sub x hx), fun x hx => (b.new x hx).elim (a.new x) Or.inr⟩

/-- `h'` is `h` with the data block `h.next`, owned by `p`, and possibly offset tables added -/
structure Heap.Fresh (c : ACfg) (unit : Nat) (h h' : Heap) (p : Ptr) : Prop where
  wf : h'.WF
  errs : h'.errs = h.errs
  sub : ∀ x, x ∈ h.live → x ∈ h'.live
  new : ∀ x ∈ h'.live, x ∈ h.live ∨ x.serial = h.next ∨ x.kind = .table
  blk : p.blk = some h.next
  owns : Owns h' c unit p

theorem Heap.Fresh.tables {c : ACfg} {u : Nat} {h h1 h2 : Heap} {p : Ptr} (f : Heap.Fresh c u h h1 p) (t : h1.Tables h2) :
    Heap.Fresh c u h h2 p :=
  ⟨t.wf, t.errs.trans f.errs, fun x hx => t.sub x (f.sub x hx),
   fun x hx => (t.new x hx).elim (f.new x) (fun h0 => Or.inr (Or.inr h0)),
   f.blk, owns_mono f.owns t.sub⟩

def Heap.thrown (h : Heap) : Heap := { h with fail := none }

def Heap.grown (h : Heap) (a bytes : Nat) (k : BKind) : Heap :=
  { h with next := h.next + 1, live := ⟨h.next, a, bytes, k⟩ :: h.live, fail := h.fail.map (· - 1), nAlloc := h.nAlloc + 1 }

theorem allocate_eq (h : Heap) (a bytes : Nat) (k : BKind) :
    h.allocate a bytes k = if h.fail = some 0 then (h.thrown, none) else (h.grown a bytes k, some h.next) := by
  unfold Heap.allocate
  split
  · rename_i hf; rw [if_pos hf]; rfl
  · rename_i hf; rw [if_neg (fun e => hf e)]; rfl

theorem Heap.same_thrown (h : Heap) : h.Same h.thrown := ⟨rfl, rfl, Nat.le_refl _⟩

theorem Heap.grown_wf {h : Heap} (hw : h.WF) (a bytes : Nat) (k : BKind) : (h.grown a bytes k).WF := by
  refine ⟨fun b hb => ?_, List.nodup_cons.mpr ⟨fun hm => ?_, hw.2⟩⟩
  · rcases List.mem_cons.mp hb with rfl | hb
    · exact Nat.lt_succ_self _
    · exact Nat.lt_succ_of_lt (hw.1 b hb)
  · obtain ⟨b, hb, hbs⟩ := List.mem_map.mp hm
    exact absurd (hbs ▸ hw.1 b hb) (Nat.lt_irrefl _)

theorem Heap.fresh_grown {h : Heap} (hw : h.WF) (c : ACfg) (units unit a : Nat) :
    Heap.Fresh c unit h (h.grown a (units * unit) .data) ⟨some h.next, units, a⟩ :=
  ⟨h.grown_wf hw a (units * unit) .data, rfl, fun _ hx => List.mem_cons_of_mem _ hx,
   fun _ hx => (List.mem_cons.mp hx).elim (fun e => Or.inr (Or.inl (e ▸ rfl))) Or.inl, rfl,
   ⟨_, List.mem_cons_self, rfl, rfl, c.eq_refl a⟩⟩

theorem make_eq (h : Heap) (units unit a : Nat) :
    Ptr.make h units unit a =
      if h.fail = some 0 then (h.thrown, none) else (h.grown a (units * unit) .data, some ⟨some h.next, units, a⟩) := by
  unfold Ptr.make
  rw [allocate_eq]
  by_cases hf : h.fail = some 0
  · rw [if_pos hf, if_pos hf]
  · rw [if_neg hf, if_neg hf]

theorem no_fault {h : Heap} (hnf : h.fail = none) : ¬ h.fail = some 0 := fun e => by cases hnf.symm.trans e

/-- `make_eq` under the `match` in which every caller of `Ptr.make` consumes its result -/
theorem make_match {α : Type} (h : Heap) (units unit al : Nat) (f : Heap → α) (g : Heap → Ptr → α) :
    (match Ptr.make h units unit al with
      | (h1, none) => f h1
      | (h1, some p) => g h1 p) =
    if h.fail = some 0 then f h.thrown else g (h.grown al (units * unit) .data) ⟨some h.next, units, al⟩ := by
  rw [make_eq]
  by_cases hf : h.fail = some 0
  · rw [if_pos hf, if_pos hf]
  · rw [if_neg hf, if_neg hf]

theorem make_none {h h' : Heap} {units unit a : Nat} (hm : Ptr.make h units unit a = (h', none)) : h.Same h' := by
  rw [make_eq] at hm
  split at hm <;> cases hm
  exact h.same_thrown

theorem allocTable_eq (h : Heap) (f : Bool) (a cap : Nat) :
    allocTable h f a cap =
      if f then (h, some none)
      else if h.fail = some 0 then (h.thrown, none) else (h.grown a (Vec.tableBytes cap) .table, some (some h.next)) := by
  unfold allocTable
  rw [allocate_eq]
  cases f with
  | true => rfl
  | false =>
    by_cases hf : h.fail = some 0
    · rw [if_pos hf, if_pos hf]
    · rw [if_neg hf, if_neg hf]

theorem allocTable_none {h h' : Heap} {f : Bool} {a cap : Nat} (ht : allocTable h f a cap = (h', none)) :
    h.Same h' ∧ h.fail = some 0 := by
  rw [allocTable_eq] at ht
  split at ht
  · cases ht
  · split at ht <;> cases ht
    exact ⟨h.same_thrown, ‹_›⟩

theorem allocTable_some {h h' : Heap} (hw : h.WF) {f : Bool} {a cap : Nat} {t : Option Nat}
    (ht : allocTable h f a cap = (h', some t)) : h.Tables h' := by
  rw [allocTable_eq] at ht
  split at ht
  · cases ht; exact .refl hw
  · split at ht <;> cases ht
    exact ⟨h.grown_wf hw a _ .table, rfl, fun _ hx => List.mem_cons_of_mem _ hx,
      fun _ hx => (List.mem_cons.mp hx).elim (fun e => Or.inr (e ▸ rfl)) Or.inl⟩

/-- `Owns` is what `deallocate` checks (the block is live, of the recorded size, from an equal allocator), so returning an owned
    block records no error -/
theorem dealloc_eq {h : Heap} (hw : h.WF) {c : ACfg} {unit : Nat} {p : Ptr} (ho : Owns h c unit p) {s : Nat} (hs : p.blk = some s) :
    p.dealloc h c unit = { h with live := h.live.filter (·.serial != s), nDealloc := h.nDealloc + 1 } := by
  simp only [Owns, hs] at ho
  obtain ⟨b, hbm, rfl, hbytes, heq⟩ := ho
  simp [Ptr.dealloc, hs, Heap.deallocate, Heap.find_of_mem h hw b hbm, hbytes, heq]

theorem dealloc_owned {h : Heap} (hw : h.WF) {c : ACfg} {unit : Nat} {p : Ptr} (ho : Owns h c unit p) :
    (p.dealloc h c unit).errs = h.errs ∧ (p.dealloc h c unit).WF ∧
    (∀ b, b ∈ (p.dealloc h c unit).live ↔ b ∈ h.live ∧ some b.serial ≠ p.blk) := by
  cases hb : p.blk with
  | none =>
    rw [show p.dealloc h c unit = h by simp [Ptr.dealloc, hb]]
    exact ⟨rfl, hw, fun b => by simp⟩
  | some s =>
    rw [dealloc_eq hw ho hb]
    refine ⟨rfl, ⟨fun x hx => hw.1 x (List.mem_filter.mp hx).1, (List.filter_sublist.map _).nodup hw.2⟩, fun x => ?_⟩
    simp only [List.mem_filter, bne_iff_ne, ne_eq, Option.some.injEq]

theorem owns_after_dealloc_other {h : Heap} {c : ACfg} {u u' : Nat} {p q : Ptr} (hw : h.WF) (hp : Owns h c u p)
    (hq : Owns h c u' q) (hne : ∀ s, q.blk = some s → p.blk ≠ some s) : Owns (p.dealloc h c u) c u' q := by
  obtain ⟨_, _, hiff⟩ := dealloc_owned hw hp
  unfold Owns at hq ⊢
  split at hq
  · trivial
  · rename_i s hb
    obtain ⟨x, hx, h1, h2⟩ := hq
    exact ⟨x, (hiff x).mpr ⟨hx, fun e => hne s hb (h1 ▸ e.symm)⟩, h1, h2⟩

/-- returning the block that was allocated last restores the list of live blocks -/
theorem dealloc_fresh {h h2 : Heap} (hw : h.WF) (c : ACfg) {units unit a : Nat}
    (hs : (h.grown a (units * unit) .data).Same h2) : h.Same ((⟨some h.next, units, a⟩ : Ptr).dealloc h2 c unit) := by
  have hf := h.fresh_grown hw c units unit a
  rw [dealloc_eq (hs.wf hf.wf) (hs.owns hf.owns) rfl]
  refine ⟨?_, hs.errs, Nat.le_of_succ_le hs.next⟩
  show h2.live.filter _ = h.live
  rw [hs.live]
  exact (List.filter_cons_of_neg (by simp)).trans
    (List.filter_eq_self.mpr fun x hx => by simpa using Nat.ne_of_lt (hw.1 x hx))

/-- the two outcomes of allocating a data block and its offset table: a fault was scheduled and nothing but the schedule changed
    (the data block is returned when the table throws), or a fresh data block `h.next` owned by the returned pointer plus,
    possibly, a table -/
theorem allocPair_cases (h : Heap) (c : ACfg) (f : Bool) (units unit a cap : Nat) :
    (∃ h', allocPair h c f units unit a cap = (h', none) ∧ h.fail ≠ none ∧ (h.WF → h.Same h')) ∨
    (∃ h' t, allocPair h c f units unit a cap = (h', some (⟨some h.next, units, a⟩, t)) ∧
      (h.WF → Heap.Fresh c unit h h' ⟨some h.next, units, a⟩)) := by
  unfold allocPair
  rw [make_eq]
  by_cases hf : h.fail = some 0
  · rw [if_pos hf]; exact Or.inl ⟨_, rfl, hf ▸ nofun, fun _ => h.same_thrown⟩
  · rw [if_neg hf]
    dsimp only
    cases ht : allocTable (h.grown a (units * unit) .data) f a cap with
    | mk h2 r => cases r with
      | none =>
        refine Or.inl ⟨_, rfl, fun hn => ?_, fun hw => dealloc_fresh hw c (allocTable_none ht).1⟩
        -- the table's fault was scheduled in `h`, one allocation ahead
        have := (allocTable_none ht).2
        rw [show (h.grown a (units * unit) .data).fail = h.fail.map (· - 1) from rfl, hn] at this
        cases this
      | some t =>
        exact Or.inr ⟨h2, t, rfl, fun hw => (h.fresh_grown hw c units unit a).tables (allocTable_some (h.grown_wf hw ..) ht)⟩

theorem allocPair_none {h h' : Heap} {c : ACfg} {f : Bool} {units unit a cap : Nat}
    (hp : allocPair h c f units unit a cap = (h', none)) : h.fail ≠ none ∧ (h.WF → h.Same h') := by
  rcases allocPair_cases h c f units unit a cap with ⟨_, e, hs⟩ | ⟨_, _, e, _⟩ <;> rw [e] at hp <;> cases hp
  exact hs

theorem allocPair_some {h h' : Heap} (hw : h.WF) {c : ACfg} {f : Bool} {units unit a cap : Nat} {p : Ptr} {t : Option Nat}
    (hp : allocPair h c f units unit a cap = (h', some (p, t))) : p = ⟨some h.next, units, a⟩ ∧ Heap.Fresh c unit h h' p := by
  rcases allocPair_cases h c f units unit a cap with ⟨_, e, _⟩ | ⟨_, _, e, hf⟩ <;> rw [e] at hp <;> cases hp
  exact ⟨rfl, hf hw⟩

theorem reallocate_eq (p : Ptr) (h : Heap) (c : ACfg) (unit a n : Nat) :
    p.reallocate h c unit a n =
      if h.fail = some 0 then (h.thrown, p, false)
      else (p.dealloc (h.grown a (n * unit) .data) c unit, ⟨some h.next, n, a⟩, true) := by
  unfold Ptr.reallocate
  rw [allocate_eq]
  by_cases hf : h.fail = some 0
  · rw [if_pos hf, if_pos hf]
  · rw [if_neg hf, if_neg hf]

/-- the pointer after copy assignment has taken over a propagating allocator where that needs no reallocation (the two
    allocators are equal) -/
def Ptr.adopt (p : Ptr) (c : ACfg) (o : Ptr) : Ptr :=
  if c.pocca && (c.ae || c.eq p.alloc o.alloc) then { p with alloc := o.alloc } else p

theorem Ptr.adopt_blk (p : Ptr) (c : ACfg) (o : Ptr) : (p.adopt c o).blk = p.blk := by unfold Ptr.adopt; split <;> rfl

theorem Ptr.adopt_units (p : Ptr) (c : ACfg) (o : Ptr) : (p.adopt c o).units = p.units := by unfold Ptr.adopt; split <;> rfl

theorem Ptr.adopt_alloc (p : Ptr) (c : ACfg) (o : Ptr) (hn : (c.pocca && !c.ae && !c.eq p.alloc o.alloc) = false) :
    (p.adopt c o).alloc = if c.pocca then o.alloc else p.alloc := by
  revert hn
  unfold Ptr.adopt
  cases c.pocca <;> cases c.ae <;> cases c.eq p.alloc o.alloc <;> intro hn <;> first | rfl | cases hn

theorem Ptr.adopt_owns {h : Heap} {c : ACfg} {u : Nat} {p : Ptr} (o : Ptr) (hp : Owns h c u p) : Owns h c u (p.adopt c o) := by
  unfold Ptr.adopt
  split
  · rename_i hc
    rw [Bool.and_eq_true, Bool.or_eq_true] at hc
    exact owns_propagate h c u p o.alloc hp (hc.2.elim (c.eq_of_ae · _ _) id)
  · exact hp

/-- copy assignment `p = o`: a new block when the allocator must be replaced by an unequal one, when the block is too small
    or when there is none; otherwise the block is kept -/
theorem copyAssign_eq (p o : Ptr) (h : Heap) (c : ACfg) (unit : Nat) :
    p.copyAssign h c unit o =
      if ((c.pocca && !c.ae && !c.eq p.alloc o.alloc) || decide (p.units < o.units) || p.blk.isNone) = true then
        (p.adopt c o).reallocate h c unit (if c.pocca then o.alloc else p.alloc) o.units
      else (h, p.adopt c o, true) := by
  unfold Ptr.copyAssign Ptr.adopt
  cases c.pocca with
  | false => rfl
  | true => cases c.ae <;> cases c.eq p.alloc o.alloc <;> rfl

/-- … so it ends in one of three ways: the allocation threw, a new block replaces the old one, or the block is kept -/
theorem copyAssign_cases (p o : Ptr) (h : Heap) (c : ACfg) (unit : Nat) :
    (h.fail = some 0 ∧ p.copyAssign h c unit o = (h.thrown, p.adopt c o, false)) ∨
    (∃ a, a = (if c.pocca then o.alloc else p.alloc) ∧ p.copyAssign h c unit o =
      ((p.adopt c o).dealloc (h.grown a (o.units * unit) .data) c unit, ⟨some h.next, o.units, a⟩, true)) ∨
    ((c.pocca && !c.ae && !c.eq p.alloc o.alloc) = false ∧ o.units ≤ p.units ∧ p.blk ≠ none ∧
      p.copyAssign h c unit o = (h, p.adopt c o, true)) := by
  rw [copyAssign_eq, reallocate_eq]
  by_cases hnew : ((c.pocca && !c.ae && !c.eq p.alloc o.alloc) || decide (p.units < o.units) || p.blk.isNone) = true
  · rw [if_pos hnew]
    by_cases hf : h.fail = some 0
    · exact Or.inl ⟨hf, if_pos hf⟩
    · exact Or.inr (Or.inl ⟨_, rfl, if_neg hf⟩)
  · rw [if_neg hnew]
    simp only [Bool.or_eq_true, decide_eq_true_eq, not_or, Bool.not_eq_true, Nat.not_lt, Option.isNone_iff_eq_none] at hnew
    exact Or.inr (Or.inr ⟨hnew.1.1, hnew.1.2, hnew.2, rfl⟩)

theorem copyAssign_false {p o : Ptr} {h h1 : Heap} {c : ACfg} {unit : Nat} {p1 : Ptr}
    (hr : p.copyAssign h c unit o = (h1, p1, false)) : h.fail = some 0 ∧ h1 = h.thrown ∧ p1 = p.adopt c o := by
  rcases copyAssign_cases p o h c unit with ⟨hf, e⟩ | ⟨_, _, e⟩ | ⟨_, _, _, e⟩ <;> rw [e] at hr <;> cases hr
  exact ⟨hf, rfl, rfl⟩

theorem copyAssign_true {p o : Ptr} {h h1 : Heap} {c : ACfg} {unit : Nat} {p1 : Ptr}
    (hr : p.copyAssign h c unit o = (h1, p1, true)) : p1.blk ≠ none ∧ o.units ≤ p1.units := by
  rcases copyAssign_cases p o h c unit with ⟨_, e⟩ | ⟨_, _, e⟩ | ⟨_, hu, hb, e⟩ <;> rw [e] at hr <;> cases hr
  · exact ⟨Option.some_ne_none _, Nat.le_refl _⟩
  · exact ⟨p.adopt_blk c o ▸ hb, p.adopt_units c o ▸ hu⟩

/-- what a step of an owning pointer that held the block `b` does to the ledger: it keeps the block (and may have thrown), or
    it gives the block back through `q` (itself, possibly with an equal allocator) in exchange for the fresh block `h.next` -/
def PtrStep (c : ACfg) (u : Nat) (h : Heap) (b : Option Nat) (h' : Heap) (p' : Ptr) : Prop :=
  (h.Same h' ∧ p'.blk = b ∧ Owns h c u p') ∨
  (∃ h1 q, h' = q.dealloc h1 c u ∧ q.blk = b ∧ Owns h c u q ∧ Heap.Fresh c u h h1 p')

theorem Ptr.reallocate_step {h : Heap} (hw : h.WF) {c : ACfg} {u : Nat} {p : Ptr} (hp : Owns h c u p) (a n : Nat) :
    PtrStep c u h p.blk (p.reallocate h c u a n).1 (p.reallocate h c u a n).2.1 := by
  rw [reallocate_eq]
  split
  · exact Or.inl ⟨h.same_thrown, rfl, hp⟩
  · exact Or.inr ⟨_, p, rfl, rfl, hp, h.fresh_grown hw c n u a⟩

theorem Ptr.copyAssign_step {h : Heap} (hw : h.WF) {c : ACfg} {u : Nat} {p : Ptr} (hp : Owns h c u p) (o : Ptr) :
    PtrStep c u h p.blk (p.copyAssign h c u o).1 (p.copyAssign h c u o).2.1 := by
  rw [copyAssign_eq]
  split
  · exact p.adopt_blk c o ▸ Ptr.reallocate_step hw (Ptr.adopt_owns o hp) _ _
  · exact Or.inl ⟨.refl h, p.adopt_blk c o, Ptr.adopt_owns o hp⟩

theorem PtrStep.sound {c : ACfg} {u : Nat} {h h' : Heap} {b : Option Nat} {p' : Ptr} (st : PtrStep c u h b h' p') (hw : h.WF) :
    h'.WF ∧ h'.errs = h.errs ∧ Owns h' c u p' := by
  rcases st with ⟨hs, _, ho⟩ | ⟨h1, q, rfl, _, hqo, hf⟩
  · exact ⟨hs.wf hw, hs.errs, hs.owns ho⟩
  · have hq1 := owns_mono hqo hf.sub
    obtain ⟨d1, d2, _⟩ := dealloc_owned hf.wf hq1
    refine ⟨d2, d1.trans hf.errs, owns_after_dealloc_other hf.wf hq1 hf.owns (fun s hs e => ?_)⟩
    -- the fresh serial is not the old block's
    cases hf.blk.symm.trans hs
    exact Nat.lt_irrefl _ (owns_lt hw hqo e)

/-- `copyAssign_cases` and `Ptr.copyAssign_step` summed up for the property files (C07, C08, C17) -/
theorem copyAssign_spec (h : Heap) (hw : h.WF) (c : ACfg) (unit : Nat) (p o : Ptr) (hp : Owns h c unit p) :
    let r := p.copyAssign h c unit o
    r.1.errs = h.errs ∧
    ((r.2.2 = true ∧ r.1.WF ∧ Owns r.1 c unit r.2.1 ∧ r.2.1.alloc = (if c.pocca then o.alloc else p.alloc)) ∨
     (r.2.2 = false ∧ r.1.live = h.live ∧ r.2.1.blk = p.blk ∧ r.2.1.units = p.units)) := by
  have st := (Ptr.copyAssign_step hw hp o).sound hw
  rcases copyAssign_cases p o h c unit with ⟨_, e⟩ | ⟨_, rfl, e⟩ | ⟨hn, _, _, e⟩ <;> rw [e] at st ⊢
  · exact ⟨rfl, Or.inr ⟨rfl, rfl, p.adopt_blk c o, p.adopt_units c o⟩⟩
  · exact ⟨st.2.1, Or.inl ⟨rfl, st.1, st.2.2, rfl⟩⟩
  · exact ⟨rfl, Or.inl ⟨rfl, hw, st.2.2, p.adopt_alloc c o hn⟩⟩

/-- swap: blocks are exchanged (sizes: `swap_units`), allocators only with POCS -/
theorem swap_spec (c : ACfg) (a b : Ptr) :
    (Ptr.swap c a b).1.blk = b.blk ∧ (Ptr.swap c a b).2.blk = a.blk ∧
    (Ptr.swap c a b).1.alloc = (if c.pocs then b.alloc else a.alloc) ∧
    (Ptr.swap c a b).2.alloc = (if c.pocs then a.alloc else b.alloc) := by
  unfold Ptr.swap; cases c.pocs <;> simp

theorem swap_units (c : ACfg) (a b : Ptr) : (Ptr.swap c a b).1.units = b.units ∧ (Ptr.swap c a b).2.units = a.units := by
  unfold Ptr.swap; split <;> exact ⟨rfl, rfl⟩

/-- after swap each side owns what it holds, provided the allocators propagate or are equal (the standard's precondition for
    allocator-aware swap); the two pointers may count in different units -/
theorem swap_owns (h : Heap) (c : ACfg) {ua ub : Nat} (a b : Ptr) (ha : Owns h c ua a) (hb : Owns h c ub b)
    (hpre : c.pocs = true ∨ c.ae = true ∨ a.alloc = b.alloc) :
    Owns h c ub (Ptr.swap c a b).1 ∧ Owns h c ua (Ptr.swap c a b).2 := by
  unfold Ptr.swap
  cases hs : c.pocs with
  | true => exact ⟨hb, ha⟩
  | false =>
    have he : c.eq a.alloc b.alloc = true := by
      rcases hpre with h0 | h0 | h0
      · rw [hs] at h0; cases h0
      · exact c.eq_of_ae h0 _ _
      · exact h0 ▸ c.eq_refl _
    exact ⟨owns_propagate h c ub b a.alloc hb (ACfg.eq_symm he), owns_propagate h c ua a b.alloc ha he⟩

end Cntgs
