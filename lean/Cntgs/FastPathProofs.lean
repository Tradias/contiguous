/-
The whole-buffer fast paths of `vector == vector` and `vector < vector` (memcmp over the used part of both blocks, taken
for memcmp-comparable lists whose storage alignment is 1, so there is no padding anywhere; `<` takes it only for lists
without VaryingSize and equal fixed sizes, `==` answers `false` on it for different fixed sizes: `vector.hpp` as of `b08abfb` /
`9650d81`): they decide exactly what the element-wise definitions decide.
-/
import Cntgs.EqProofs
import Cntgs.CompareProofs
namespace Cntgs

theorem vecBytes_inj (ps : List Param) (a b : List Elem)
    (hwa : ∀ e ∈ a, e.length = ps.length ∧ InRange ps e) (hwb : ∀ e ∈ b, e.length = ps.length ∧ InRange ps e)
    (hshape : a.map elemCounts = b.map elemCounts) (h : vecBytes ps a = vecBytes ps b) : a = b := by
  refine flatMap_inj_of_key elemCounts (fun e => runBytes ps e 0 (ps.length - 1)) (fun e => e.length = ps.length ∧ InRange ps e)
    (fun x y hk => runBytes_length_eq ps x y hk 0 _) ?_ a b hwa hwb hshape h
  -- the bytes of a whole element determine it: the element is the one run of the fields `0 … ps.length - 1`, and equal bytes of
  -- a run are equal fields (`runBytes_eq_iff_of`)
  intro x y hx hy hc h
  refine ext_getElem?_of_length hx.1 hy.1 fun m (hm : m < ps.length) => ?_
  have hlast : ps.length - 1 < ps.length := Nat.sub_one_lt (Nat.ne_of_gt (Nat.zero_lt_of_lt hm))
  have hfields : ∀ m, 0 ≤ m → m ≤ ps.length - 1 → x[m]? = y[m]? :=
    (runBytes_eq_iff_of ps x y 0 (ps.length - 1) hc hlast (fun m _ _ => hx.2.fitsAt m) (fun m _ _ => hy.2.fitsAt m)).mp h
  exact hfields m (Nat.zero_le m) (Nat.le_sub_one_of_lt hm)

/-- **`vector == vector` is equality of the element sequences, on either code path**: for vectors of the same shape (same
    number of elements, equal field sizes), built with the same fixed sizes where the whole-buffer path is taken,
    comparing the bytes of the used part of the blocks is comparing the elements one by one -/
theorem vecEq_iff (ps : List Param) (fa fb : List Nat) (a b : List Elem)
    (hf : (ps.all (·.ty.eqMemcmp) && storageAl ps == 1) = true → fixedSizesOf ps fa = fixedSizesOf ps fb)
    (hwa : ∀ e ∈ a, e.length = ps.length ∧ InRange ps e) (hwb : ∀ e ∈ b, e.length = ps.length ∧ InRange ps e)
    (hshape : a.map elemCounts = b.map elemCounts) :
    vecEq ps fa fb a b = some true ↔ a = b := by
  unfold vecEq
  cases hgen : (ps.all (·.ty.eqMemcmp) && storageAl ps == 1)
  · have hl : a.length = b.length := by simpa using congrArg List.length hshape
    simp only [Bool.false_eq_true, if_false, hl, beq_self_eq_true, if_true]
    exact allEq_iff ps a b hwa hwb hshape
  · rw [if_pos rfl]
    cases a with
    | nil => cases b with | nil => exact ⟨fun _ => rfl, fun _ => rfl⟩ | cons _ _ => cases hshape
    | cons x xs =>
      cases b with
      | nil => cases hshape
      | cons y ys =>
        -- both non-empty: the answer is "fixed sizes equal and bytes equal"; the fixed sizes are equal by `hf`, which leaves the bytes
        simp only [List.isEmpty_cons, Bool.false_eq_true, if_false, hf hgen, beq_self_eq_true, Bool.true_and, Option.some.injEq,
          beq_iff_eq]
        exact ⟨vecBytes_inj ps _ _ hwa hwb hshape, fun h => by rw [h]⟩

/-- the comparison key of a vector on the whole-buffer path: the bytes of the used part of its block; an empty vector has
    no key (and so comes first) -/
def vecKey (ps : List Param) (a : List Elem) : List (List Nat) := if a.isEmpty then [] else [vecBytes ps a]

/-- `vector <` is a lexicographical comparison on either path: of at most one key per vector, or of the elements -/
theorem vecLt_eq_lexBy (ps : List Param) (fa fb : List Nat) (a b : List Elem) : vecLt ps fa fb a b =
    if (ps.all (·.ty.lexMemcmp) && isFixedOrPlain ps && storageAl ps == 1 && fixedSizesOf ps fa == fixedSizesOf ps fb) = true then
      lexBy lexLt (vecKey ps a) (vecKey ps b)
    else lexBy (elemLt ps) a b := by
  unfold vecLt vecKey
  refine ite_congr rfl (fun _ => ?_) (fun _ => rfl)
  cases a <;> cases b <;> simp [lexBy]

theorem vecLt_swo_fastpath (ps : List Param) (f : List Nat)
    (hc : (ps.all (·.ty.lexMemcmp) && isFixedOrPlain ps && storageAl ps == 1) = true) :
    SWO (vecLt ps f f) := by
  have : vecLt ps f f = fun a b => lexBy lexLt (vecKey ps a) (vecKey ps b) := by
    funext a b; rw [vecLt_eq_lexBy, if_pos (by simp [hc])]
  rw [this]
  exact (lexBy_swo lexLt_swo).comap _

/-- one step of the run walk over a memcmp-able parameter that cannot be preceded by padding: the open run (at `idx`) is extended
    to the current parameter `i` -/
theorem runsGo_extend (pred : Param → Bool) (p : Param) (ps : List Param) (i idx : Nat) (tbl : Nat → RunEntry)
    (hp : pred p = true) (hal : p.al ≤ 1) :
    runsGo pred true (p :: ps) i idx tbl = runsGo pred true ps (i + 1) idx (fun k => if k = idx then .upto i else tbl k) := by
  have hnobreak : (true && decide (p.al > 1)) = false := by rw [decide_eq_false (Nat.not_lt.mpr hal)]; rfl
  rw [runsGo, if_pos hp]
  simp only [hnobreak, Bool.false_eq_true, if_false]

/-- a list of memcmp-able parameters without alignment requirements forms one single run: `[upto (n-1), skip, …]` -/
theorem runsGo_single (pred : Param → Bool) : ∀ (ps : List Param) (p : Param) (i idx : Nat) (tbl : Nat → RunEntry),
    (∀ q ∈ p :: ps, pred q = true ∧ q.al ≤ 1) →
    runsGo pred true (p :: ps) i idx tbl = fun k => if k = idx then .upto (i + ps.length) else tbl k := by
  intro ps
  induction ps with
  | nil =>
    intro p i idx tbl h
    obtain ⟨hp, hal⟩ := h p List.mem_cons_self
    rw [runsGo_extend pred p [] i idx tbl hp hal, runsGo]
    rfl
  | cons q ps ih =>
    intro p i idx tbl h
    obtain ⟨hp, hal⟩ := h p List.mem_cons_self
    rw [runsGo_extend pred p (q :: ps) i idx tbl hp hal, ih q (i + 1) idx _ (fun r hr => h r (List.mem_cons_of_mem p hr))]
    -- the later extensions overwrite the earlier one at `idx`
    funext k
    by_cases hk : k = idx
    · rw [if_pos hk, if_pos hk, List.length_cons, Nat.add_assoc, Nat.add_comm 1]
    · rw [if_neg hk, if_neg hk, if_neg hk]

theorem elemLt_single_run (p : Param) (ps : List Param) (h : ∀ q ∈ p :: ps, q.ty.lexMemcmp = true ∧ q.al ≤ 1) :
    elemLt (p :: ps) = fun a b => lexLt (runBytes (p :: ps) a 0 ps.length) (runBytes (p :: ps) b 0 ps.length) := by
  funext a b
  have htbl : ∀ k, k < (p :: ps).length → (lexTable (p :: ps)).getD k .skip = if k = 0 then .upto ps.length else .skip := by
    intro k hk
    rw [lexTable, runs_getD _ _ _ k hk, runsGo_single (·.ty.lexMemcmp) ps p 0 0 _ h, Nat.zero_add]
  have hidx : keyIdx (lexTable (p :: ps)) (p :: ps).length = [0] := by
    -- of the indices `0 :: [1, …, n]`, index 0 holds the run and is kept, every later index holds SKIP and is dropped
    rw [keyIdx, List.length_cons, List.range_succ_eq_map]
    refine (List.filter_cons_of_pos ?keep0).trans (congrArg (0 :: ·) (List.filter_eq_nil_iff.mpr ?dropLater))
    case keep0 => rw [htbl 0 (Nat.succ_pos _), if_pos rfl]; rfl
    case dropLater =>
      intro k' hk'
      obtain ⟨k, hk, rfl⟩ := List.mem_map.mp hk'
      rw [htbl (k + 1) (Nat.succ_lt_succ (List.mem_range.mp hk)), if_neg (Nat.succ_ne_zero k)]
      exact Bool.noConfusion
  unfold elemLt ltKeys
  rw [hidx]
  simp only [List.map_cons, List.map_nil, ltKey, htbl 0 (Nat.succ_pos _), if_true, keysLt, List.isEmpty_cons, Bool.not_false, Bool.true_and,
    allLt, Bool.and_true]

end Cntgs
