/-
Block contents: what `Mem.write`, `Mem.drop` (`Vec.destructRange` for a range), `Mem.move` and `Mem.read` do to a memory that holds
exactly a family of records laid out in index order (the elements of a vector).  The states in the middle of an erase are described from the layout that
will result: `pushed rec c D` is that layout with the records from `c` on still `D` bytes further back.
-/
import Cntgs.Vector
namespace Cntgs

/-- the memory holds exactly the records `rec k` for `k < n` -/
def Holds (m : Mem) (n : Nat) (rec : Nat → Rec) : Prop := ∀ r, r ∈ m ↔ ∃ k, k < n ∧ r = rec k

/-- records are laid out in index order without overlap, and none is empty: the start offset identifies a record (`off_inj`) -/
def Ordered (n : Nat) (rec : Nat → Rec) : Prop :=
  (∀ k, k < n → 0 < (rec k).sz) ∧ (∀ k, k + 1 < n → (rec k).off + (rec k).sz ≤ (rec (k + 1)).off)

theorem Ordered.mono {n : Nat} {rec : Nat → Rec} (h : Ordered n rec) :
    ∀ a b, a < b → b < n → (rec a).off + (rec a).sz ≤ (rec b).off := by
  intro a b hab hb
  induction b with
  | zero => exact absurd hab (Nat.not_lt_zero a)
  | succ b ih =>
    rcases Nat.lt_or_eq_of_le (Nat.le_of_lt_succ hab) with hlt | rfl
    · exact Nat.le_trans (ih hlt (Nat.lt_of_succ_lt hb)) (Nat.le_trans (Nat.le_add_right _ _) (h.2 b hb))
    · exact h.2 a hb

theorem Ordered.off_lt {n : Nat} {rec : Nat → Rec} (h : Ordered n rec) (a b : Nat) (hab : a < b) (hb : b < n) :
    (rec a).off < (rec b).off :=
  Nat.lt_of_lt_of_le (Nat.lt_add_of_pos_right (h.1 a (Nat.lt_trans hab hb))) (h.mono a b hab hb)

theorem Ordered.off_inj {n : Nat} {rec : Nat → Rec} (h : Ordered n rec) (a b : Nat) (ha : a < n) (hb : b < n)
    (he : (rec a).off = (rec b).off) : a = b := by
  rcases Nat.lt_trichotomy a b with hlt | heq | hgt
  · exact absurd he (Nat.ne_of_lt (h.off_lt a b hlt hb))
  · exact heq
  · exact absurd he.symm (Nat.ne_of_lt (h.off_lt b a hgt ha))

theorem find_holds {m : Mem} {n : Nat} {rec : Nat → Rec} (hh : Holds m n rec) (ho : Ordered n rec) (k : Nat) (hk : k < n) :
    m.find? (fun r => r.off == (rec k).off) = some (rec k) := by
  cases hf : m.find? (fun r => r.off == (rec k).off) with
  | none =>
    have := List.find?_eq_none.mp hf (rec k) ((hh (rec k)).mpr ⟨k, hk, rfl⟩)
    simp at this
  | some r =>
    obtain ⟨j, hj, rfl⟩ := (hh r).mp (List.mem_of_find?_eq_some hf)
    have : j = k := ho.off_inj j k hj hk (by simpa using List.find?_some hf)
    subst this; rfl

theorem read_holds {m : Mem} {n : Nat} {rec : Nat → Rec} (hh : Holds m n rec) (ho : Ordered n rec) (k : Nat) (hk : k < n) :
    m.read (rec k).off = some (rec k).e := by
  unfold Mem.read; rw [find_holds hh ho k hk]; rfl

theorem Rec.not_meets_of_before {r : Rec} {a : Nat} (n : Nat) (h : r.off + r.sz ≤ a) : r.meets a n = false := by
  simp only [Rec.meets, Bool.and_eq_false_iff, decide_eq_false_iff_not]
  exact Or.inl (Or.inr (Nat.not_lt.mpr h))

theorem Rec.not_meets_of_after {r : Rec} {a n : Nat} (h : a + n ≤ r.off) : r.meets a n = false := by
  simp only [Rec.meets, Bool.and_eq_false_iff, decide_eq_false_iff_not]
  exact Or.inl (Or.inl (Nat.not_lt.mpr h))

theorem write_free {m : Mem} {off sz : Nat} (e : Elem) (h : ∀ x ∈ m, x.meets off sz = false) :
    m.hits off sz = false ∧ ∀ x, x ∈ m.write off sz e ↔ x = ⟨off, sz, e⟩ ∨ x ∈ m := by
  refine ⟨?_, fun x => ?_⟩
  · unfold Mem.hits
    rw [List.any_eq_false]
    intro x hx; rw [h x hx]; simp
  · unfold Mem.write
    simp only [List.mem_cons, List.mem_filter]
    exact or_congr_right ⟨fun h' => h'.1, fun hx => ⟨hx, by rw [h x hx]; rfl⟩⟩

theorem write_holds {m : Mem} {n : Nat} {rec : Nat → Rec} (hh : Holds m n rec) (r : Rec)
    (hfree : ∀ k, k < n → (rec k).off + (rec k).sz ≤ r.off) :
    m.hits r.off r.sz = false ∧
    Holds (m.write r.off r.sz r.e) (n + 1) (fun k => if k = n then r else rec k) := by
  obtain ⟨h1, h2⟩ := write_free r.e (m := m) (off := r.off) (sz := r.sz) (fun x hx => by
    obtain ⟨k, hk, rfl⟩ := (hh x).mp hx
    exact Rec.not_meets_of_before _ (hfree k hk))
  refine ⟨h1, fun x => ?_⟩
  rw [h2 x, hh x]
  constructor
  · rintro (rfl | ⟨k, hk, rfl⟩)
    · exact ⟨n, Nat.lt_succ_self n, (if_pos rfl).symm⟩
    · exact ⟨k, Nat.lt_succ_of_lt hk, (if_neg (Nat.ne_of_lt hk)).symm⟩
  · rintro ⟨k, hk, rfl⟩
    by_cases hkn : k = n
    · exact Or.inl (if_pos hkn)
    · exact Or.inr ⟨k, Nat.lt_of_le_of_ne (Nat.le_of_lt_succ hk) hkn, if_neg hkn⟩

theorem drop_holds {m : Mem} {n : Nat} {rec : Nat → Rec} (hh : Holds m n rec) (ho : Ordered n rec) (i : Nat) (hi : i < n) :
    ∀ x, x ∈ m.drop (rec i).off ↔ ∃ k, k < n ∧ k ≠ i ∧ x = rec k := by
  intro x
  unfold Mem.drop
  simp only [List.mem_filter, bne_iff_ne, ne_eq]
  constructor
  · rintro ⟨hx, hne⟩
    obtain ⟨k, hk, rfl⟩ := (hh x).mp hx
    exact ⟨k, hk, fun h => hne (by rw [h]), rfl⟩
  · rintro ⟨k, hk, hki, rfl⟩
    exact ⟨(hh _).mpr ⟨k, hk, rfl⟩, fun h => hki (ho.off_inj k i hk hi h)⟩

theorem mem_foldl_drop (offs : List Nat) (m : Mem) (x : Rec) :
    x ∈ offs.foldl (fun m o => Mem.drop m o) m ↔ x ∈ m ∧ x.off ∉ offs := by
  induction offs generalizing m with
  | nil => simp
  | cons o os ih =>
    rw [List.foldl_cons, ih (Mem.drop m o)]
    simp only [Mem.drop, List.mem_filter, bne_iff_ne, ne_eq, List.mem_cons, not_or]
    constructor
    · rintro ⟨⟨h1, h2⟩, h3⟩; exact ⟨h1, h2, h3⟩
    · rintro ⟨h1, h2, h3⟩; exact ⟨⟨h1, h2⟩, h3⟩

theorem mem_of_mem_destructRange {v : Vec} {i j : Nat} {x : Rec} (h : x ∈ v.destructRange i j) : x ∈ v.mem := by
  rw [Vec.destructRange, ← List.foldl_map (f := v.addr) (g := fun m o => Mem.drop m o), mem_foldl_drop] at h
  exact h.1

theorem Holds.congr {m : Mem} {n : Nat} {r1 r2 : Nat → Rec} (h : Holds m n r1) (he : ∀ k, k < n → r1 k = r2 k) : Holds m n r2 := by
  intro x
  rw [h x]
  constructor
  · rintro ⟨k, hk, rfl⟩; exact ⟨k, hk, he k hk⟩
  · rintro ⟨k, hk, rfl⟩; exact ⟨k, hk, (he k hk).symm⟩

theorem holds_map (m : Mem) (n : Nat) (rec rec' : Nat → Rec) (g : Rec → Rec) (h : Holds m n rec)
    (hg : ∀ k, k < n → g (rec k) = rec' k) : Holds (m.map g) n rec' := by
  intro r
  constructor
  · intro hr
    obtain ⟨r0, hr0, rfl⟩ := List.mem_map.mp hr
    obtain ⟨k, hk, rfl⟩ := (h r0).mp hr0
    exact ⟨k, hk, hg k hk⟩
  · rintro ⟨k, hk, rfl⟩
    exact List.mem_map.mpr ⟨rec k, (h (rec k)).mpr ⟨k, hk, rfl⟩, hg k hk⟩

theorem Ordered.congr {n : Nat} {r1 r2 : Nat → Rec} (h : Ordered n r1) (he : ∀ k, k < n → r1 k = r2 k) : Ordered n r2 :=
  ⟨fun k hk => he k hk ▸ h.1 k hk, fun k hk => he k (Nat.lt_of_succ_lt hk) ▸ he (k + 1) hk ▸ h.2 k hk⟩

/-- the offsets that `destruct(first, last)` drops are those of the indices `i ≤ a < i + d` -/
theorem mem_destructed {v : Vec} {i d o : Nat} :
    o ∈ ((List.range d).map (· + i)).map v.addr ↔ ∃ a, i ≤ a ∧ a < i + d ∧ v.addr a = o := by
  simp only [List.mem_map, List.mem_range]
  constructor
  · rintro ⟨_, ⟨t, ht, rfl⟩, he⟩
    exact ⟨t + i, Nat.le_add_left i t, Nat.add_comm t i ▸ Nat.add_lt_add_left ht i, he⟩
  · rintro ⟨a, h1, h2, he⟩
    obtain ⟨t, rfl⟩ := Nat.exists_eq_add_of_le h1
    exact ⟨i + t, ⟨t, Nat.lt_of_add_lt_add_left h2, Nat.add_comm t i⟩, he⟩

theorem destructRange_holds {v : Vec} {n d : Nat} {rec : Nat → Rec} (hh : Holds v.mem (n + d) rec) (ho : Ordered (n + d) rec)
    (i : Nat) (hi : i ≤ n) (haddr : ∀ k, i ≤ k → k < i + d → v.addr k = (rec k).off) :
    Holds (v.destructRange i (i + d)) n (fun q => if q < i then rec q else rec (q + d)) := by
  -- a record survives iff its index lies outside `[i, i + d)`: offsets identify records (`off_inj`)
  have hsurv : ∀ k, k < n + d → ((rec k).off ∉ ((List.range d).map (· + i)).map v.addr ↔ k < i ∨ i + d ≤ k) := by
    intro k hk
    rw [mem_destructed]
    constructor
    · intro hno
      rcases Nat.lt_or_ge k i with h1 | h1
      · exact Or.inl h1
      · exact Or.inr (Nat.le_of_not_lt fun h2 => hno ⟨k, h1, h2, haddr k h1 h2⟩)
    · rintro hout ⟨a, h1, h2, he⟩
      have hak : a = k := ho.off_inj a k (Nat.lt_of_lt_of_le h2 (Nat.add_le_add_right hi d)) hk ((haddr a h1 h2).symm.trans he)
      subst hak
      exact hout.elim (fun h => Nat.not_lt.mpr h1 h) (fun h => Nat.not_lt.mpr h h2)
  intro x
  rw [Vec.destructRange, Nat.add_sub_cancel_left, ← List.foldl_map (f := v.addr) (g := fun m o => Mem.drop m o), mem_foldl_drop]
  constructor
  · rintro ⟨hx, hno⟩
    obtain ⟨k, hk, rfl⟩ := (hh x).mp hx
    -- renumber: `k` below the gap keeps its index, `k` behind it comes `d` forward
    rcases (hsurv k hk).mp hno with h1 | h1
    · exact ⟨k, Nat.lt_of_lt_of_le h1 hi, (if_pos h1).symm⟩
    · obtain ⟨u, rfl⟩ := Nat.exists_eq_add_of_le h1
      refine ⟨i + u, by omega, ?_⟩
      dsimp only
      rw [if_neg (Nat.not_lt.mpr (Nat.le_add_right i u)), Nat.add_right_comm]
  · rintro ⟨q, hq, rfl⟩
    dsimp only
    by_cases hqi : q < i
    · rw [if_pos hqi]
      exact ⟨(hh _).mpr ⟨q, Nat.lt_add_right d hq, rfl⟩, (hsurv q (Nat.lt_add_right d hq)).mpr (Or.inl hqi)⟩
    · rw [if_neg hqi]
      exact ⟨(hh _).mpr ⟨q + d, Nat.add_lt_add_right hq d, rfl⟩,
        (hsurv (q + d) (Nat.add_lt_add_right hq d)).mpr (Or.inr (Nat.add_le_add_right (Nat.le_of_not_lt hqi) d))⟩

/-- `memmove` of the `c` bytes at `s` to `t`: the records inside, a suffix of the layout, come forward by `s - t`; the others lie
    outside both ranges, so they stay and nothing live is overwritten -/
theorem move_suffix {m : Mem} {n : Nat} {rec : Nat → Rec} (hm : Holds m n rec) (i s c t : Nat)
    (hin : ∀ k, i ≤ k → k < n → (rec k).inside s c = true)
    (hout : ∀ k, k < i → (rec k).inside s c = false ∧ (rec k).meets t c = false) :
    m.moveHits s c t = false ∧
    Holds (m.move s c t) n (fun k => if k < i then rec k else { rec k with off := (rec k).off - (s - t) }) := by
  constructor
  · unfold Mem.moveHits
    rw [List.any_eq_false]
    intro x hx
    obtain ⟨k, hk, rfl⟩ := (hm x).mp hx
    by_cases h : k < i
    · rw [(hout k h).2, Bool.and_false]; exact Bool.false_ne_true
    · rw [hin k (Nat.le_of_not_lt h) hk]; exact Bool.false_ne_true
  · intro x
    unfold Mem.move
    simp only [List.mem_append, List.mem_map, List.mem_filter, Bool.and_eq_true, Bool.not_eq_true']
    constructor
    · rintro (⟨y, ⟨hy, hiy⟩, rfl⟩ | ⟨hx, hni, _⟩)
      · obtain ⟨k, hk, rfl⟩ := (hm y).mp hy
        by_cases h : k < i
        · rw [(hout k h).1] at hiy; exact absurd hiy Bool.false_ne_true
        · exact ⟨k, hk, by rw [if_neg h]⟩
      · obtain ⟨k, hk, rfl⟩ := (hm x).mp hx
        by_cases h : k < i
        · exact ⟨k, hk, by rw [if_pos h]⟩
        · rw [hin k (Nat.le_of_not_lt h) hk] at hni; exact absurd hni.symm Bool.false_ne_true
    · rintro ⟨k, hk, rfl⟩
      have hmem : rec k ∈ m := (hm _).mpr ⟨k, hk, rfl⟩
      by_cases h : k < i
      · rw [if_pos h]; exact Or.inr ⟨hmem, (hout k h).1, (hout k h).2⟩
      · rw [if_neg h]; exact Or.inl ⟨rec k, ⟨hmem, hin k (Nat.le_of_not_lt h) hk⟩, rfl⟩

/-- the layout `rec` with the records from index `c` on still `D` bytes further back -/
def pushed (rec : Nat → Rec) (c D : Nat) (q : Nat) : Rec :=
  if q < c then rec q else { rec q with off := (rec q).off + D }

theorem pushed_lt {rec : Nat → Rec} {c q : Nat} (D : Nat) (h : q < c) : pushed rec c D q = rec q := if_pos h

theorem pushed_ge {rec : Nat → Rec} {c q : Nat} (D : Nat) (h : c ≤ q) :
    pushed rec c D q = { rec q with off := (rec q).off + D } := if_neg (Nat.not_lt.mpr h)

theorem Ordered.pushed {n : Nat} {rec : Nat → Rec} (h : Ordered n rec) (c D : Nat) : Ordered n (pushed rec c D) := by
  refine ⟨fun k hk => ?_, fun k hk => ?_⟩
  · unfold Cntgs.pushed; split <;> exact h.1 k hk
  · rcases Nat.lt_or_ge k c with h1 | h1
    · rw [pushed_lt D h1]
      refine Nat.le_trans (h.2 k hk) ?_
      unfold Cntgs.pushed; split
      · exact Nat.le_refl _
      · exact Nat.le_add_right _ _
    · rw [pushed_ge D h1, pushed_ge D (Nat.le_succ_of_le h1)]
      show (rec k).off + D + (rec k).sz ≤ (rec (k + 1)).off + D
      rw [Nat.add_right_comm]; exact Nat.add_le_add_right (h.2 k hk) D

/-- the memmove of erase; `fin` is where its source range ends -/
theorem move_pushed {m : Mem} {n : Nat} {rec : Nat → Rec} (ho : Ordered n rec) (i D fin : Nat) (hi : i < n)
    (hm : Holds m n (pushed rec i D)) (hfin : ∀ k, k < n → (rec k).off + D + (rec k).sz ≤ fin) :
    let src := (rec i).off + D
    m.moveHits src (fin - src) (rec i).off = false ∧ Holds (m.move src (fin - src) (rec i).off) n rec := by
  have hs : (rec i).off + D ≤ fin := Nat.le_trans (Nat.le_add_right _ _) (hfin i hi)
  -- the records from `i` on, still pushed back, lie inside the source range `[(rec i).off + D, fin)` …
  have hin : ∀ k, i ≤ k → k < n → (pushed rec i D k).inside ((rec i).off + D) (fin - ((rec i).off + D)) = true := by
    intro k h1 h2
    have : (rec i).off ≤ (rec k).off := by
      rcases Nat.lt_or_eq_of_le h1 with h | h
      · exact Nat.le_of_lt (ho.off_lt i k h h2)
      · rw [h]; exact Nat.le_refl _
    simp only [pushed_ge D h1, Rec.inside, Bool.and_eq_true, decide_eq_true_eq, Nat.add_sub_cancel' hs]
    exact ⟨Nat.add_le_add_right this D, hfin k h2⟩
  -- … and those in front of `i` end at or before `(rec i).off`: outside the source range and outside the target range
  have hout : ∀ k, k < i → (pushed rec i D k).inside ((rec i).off + D) (fin - ((rec i).off + D)) = false ∧
      (pushed rec i D k).meets (rec i).off (fin - ((rec i).off + D)) = false := by
    intro k hk
    rw [pushed_lt D hk]
    refine ⟨?_, Rec.not_meets_of_before _ (ho.mono k i hk hi)⟩
    simp only [Rec.inside, Bool.and_eq_false_iff, decide_eq_false_iff_not]
    exact Or.inl (Nat.not_le.mpr (Nat.lt_of_lt_of_le (ho.off_lt k i hk hi) (Nat.le_add_right _ _)))
  obtain ⟨h1, h2⟩ := move_suffix hm i ((rec i).off + D) (fin - ((rec i).off + D)) (rec i).off hin hout
  -- coming forward by `D` undoes the push
  refine ⟨h1, h2.congr (fun k _ => ?_)⟩
  unfold pushed
  split
  · rfl
  · simp only [Nat.add_sub_cancel_left, Nat.add_sub_cancel]

/-- one step of the element-wise relocation: `emplace_at`, then `destruct` of the source -/
theorem relocate_pushed {m : Mem} {n : Nat} {rec : Nat → Rec} (ho : Ordered n rec) (c D : Nat) (hc : c < n)
    (hh : Holds m n (pushed rec c D)) :
    let src := (rec c).off + D
    m.find? (fun r => r.off == src) = some { rec c with off := src } ∧ (m.drop src).hits (rec c).off (rec c).sz = false ∧
    Holds ((m.drop src).write (rec c).off (rec c).sz (rec c).e) n (pushed rec (c + 1) D) := by
  have hfind := find_holds hh (ho.pushed c D) c hc
  have hdrop := drop_holds hh (ho.pushed c D) c hc
  rw [pushed_ge D (Nat.le_refl c)] at hfind hdrop
  obtain ⟨h1, h2⟩ := write_free (rec c).e (m := m.drop ((rec c).off + D)) (off := (rec c).off) (sz := (rec c).sz) (fun x hx => by
    obtain ⟨q, hq, hqc, rfl⟩ := (hdrop x).mp hx
    rcases Nat.lt_or_gt_of_ne hqc with h | h
    · rw [pushed_lt D h]; exact Rec.not_meets_of_before _ (ho.mono q c h hc)
    · rw [pushed_ge D (Nat.le_of_lt h)]; exact Rec.not_meets_of_after (Nat.le_trans (ho.mono c q h hq) (Nat.le_add_right _ _)))
  have hne : ∀ q, q ≠ c → pushed rec c D q = pushed rec (c + 1) D q := fun q hqc => by
    rcases Nat.lt_or_gt_of_ne hqc with h | h
    · rw [pushed_lt D h, pushed_lt D (Nat.lt_succ_of_lt h)]
    · rw [pushed_ge D (Nat.le_of_lt h), pushed_ge D h]
  have hc' : pushed rec (c + 1) D c = rec c := pushed_lt D (Nat.lt_succ_self c)
  refine ⟨hfind, h1, fun x => ?_⟩
  rw [h2 x, hdrop x]
  constructor
  · rintro (rfl | ⟨q, hq, hqc, rfl⟩)
    · exact ⟨c, hc, hc'.symm⟩
    · exact ⟨q, hq, hne q hqc⟩
  · rintro ⟨q, hq, rfl⟩
    by_cases hqc : q = c
    · exact Or.inl (hqc ▸ hc')
    · exact Or.inr ⟨q, hq, hqc, (hne q hqc).symm⟩

end Cntgs
