/-
The stride locator (`AllFixedSizeElementLocator`, lists without a VaryingSize parameter) and the size formula: the stride
computed by the constructor (`calculate_element_size`) is a multiple of the storage alignment and leaves room for every element
whose FixedSize fields have the sizes the vector was constructed with.  At the end, for the offset table: histories that
relocate nothing (`VOp.NoReloc`, `VarInv.history_noreloc`).
-/
import Cntgs.VectorProofs
import Cntgs.SizeProofs
namespace Cntgs

/-- the FixedSize parameters are among those that are not plain; if there are as many, none of the latter is VaryingSize -/
theorem noVarying_of_fixedOrPlain (ps : List Param) (h : isFixedOrPlain ps = true) : NoVarying ps := by
  intro p hp hk
  have hmem : p ∈ ps.filter (·.kind ≠ .plain) := List.mem_filter.mpr ⟨hp, by simp [hk]⟩
  have hfix : fixedCount ps = ((ps.filter (·.kind ≠ .plain)).filter (·.kind = .fixed)).length := by
    rw [List.filter_filter, fixedCount]
    exact congrArg List.length (List.filter_congr (fun q _ => by cases q.kind <;> rfl))
  unfold isFixedOrPlain isAllFixed isAllPlain at h
  simp only [Bool.or_eq_true, Bool.and_eq_true, decide_eq_true_eq] at h
  rcases h with ⟨_, h⟩ | h
  · rw [hfix, contiguousCount, List.length_filter_eq_length_iff] at h
    have := h p hmem
    simp [hk] at this
  · rw [contiguousCount, List.length_eq_zero_iff] at h
    rw [h] at hmem
    exact absurd hmem List.not_mem_nil

theorem elemSize_stride_dvd (ps : List Param) (fs : List Nat) (hl : ListOK ps) (hf : isFixedOrPlain ps = true)
    (hlf : ps.length ≤ fs.length) : storageAl ps ∣ (elemSize ps fs).stride :=
  (elemSize_fixed ps fs hl.wf hl.ne (noVarying_of_fixedOrPlain ps hf) hlf).2 ▸ alignUp_dvd _ _

theorem FixInv.new (ps : List Param) (fs : List Nat) (cap bytes : Nat) (junk : Nat → Nat) (hl : ListOK ps)
    (hf : isFixedOrPlain ps = true) (hlf : ps.length ≤ fs.length) : FixInv (Vec.new ps fs cap bytes junk) [] :=
  FixInv.empty hl hf rfl (elemSize_stride_dvd ps fs hl hf hlf) rfl rfl

theorem fixed_fit (ps : List Param) (fs : List Nat) (hl : ListOK ps) (hf : isFixedOrPlain ps = true) (hlf : ps.length ≤ fs.length)
    (e : Elem) (he : elemCounts e = fixedCounts ps fs) : esz ps e ≤ (elemSize ps fs).stride := by
  have hnv := noVarying_of_fixedOrPlain ps hf
  obtain ⟨_, hst⟩ := elemSize_fixed ps fs hl.wf hl.ne hnv hlf
  rw [hst]; unfold esz; rw [he]
  exact alignUp_ge _ _ (storage_pos hl)

/-- preconditions for the stride locator: the new element fits the stride -/
def VOp.PreFix (ps : List Param) (stride : Nat) (es : List Elem) (op : VOp) : Prop :=
  op.Pre ps es ∧ (match op with | .emplace e => esz ps e ≤ stride | _ => True)

def ValidFix (ps : List Param) (stride : Nat) : List Elem → List VOp → Prop
  | _, [] => True
  | es, op :: ops => op.PreFix ps stride es ∧ ValidFix ps stride (op.spec es) ops

/-- on the stride locator the preconditions suffice: relocation goes by whole strides -/
theorem VOp.Ok.of_preFix {ps : List Param} {stride : Nat} {es : List Elem} {op : VOp} (h : op.PreFix ps stride es) :
    op.Ok ps (fun _ => stride) true es := by
  cases op with
  | emplace e => exact ⟨h.1.1, h.1.2, h.2⟩
  | pop => exact h.1
  | erase i => exact ⟨h.1, fun _ _ => Or.inl rfl⟩
  | eraseRange i j => exact ⟨h.1.1, h.1.2, fun _ _ => Or.inl rfl⟩
  | clear => trivial
  | reserve n b => trivial

/-- … in the form `Canon.step` asks for: on a vector with the stride locator every slot is the stride and relocation is free -/
theorem VOp.Ok.of_preFix_vec {v : Vec} (hf : v.fixedLoc = true) {es : List Elem} {op : VOp} (h : op.PreFix v.ps v.loc.stride es) :
    op.Ok v.ps v.slot (v.trivialReloc || v.fixedLoc) es := by
  rw [hf, Bool.or_true, show v.slot = fun _ => v.loc.stride from funext (slot_of_fixed hf)]
  exact .of_preFix h

/-- **every history on the stride locator, all value types** -/
theorem FixInv.history_all {v : Vec} {es : List Elem} (h : FixInv v es) (junk : Nat → Nat)
    (ops : List VOp) (hv : ValidFix v.ps v.loc.stride es ops) :
    FixInv (ops.foldl (VOp.apply junk) v) (ops.foldl VOp.spec es) :=
  (h.canon.history junk (ValidFix v.ps v.loc.stride) (fun _ _ _ hv => ⟨.of_preFix_vec h.isFixed hv.1, hv.2⟩) ops hv).toFix
    ((history_fixedLoc junk ops v).trans h.isFixed)

/-- `history_all` once more, with the memmove path assumed -/
theorem FixInv.history {v : Vec} {es : List Elem} (h : FixInv v es) (ht : v.trivialReloc = true) (junk : Nat → Nat)
    (ops : List VOp) (hv : ValidFix v.ps v.loc.stride es ops) :
    FixInv (ops.foldl (VOp.apply junk) v) (ops.foldl VOp.spec es) := h.history_all junk ops hv

/-- an operation that relocates no element: `emplace_back`, `pop_back`, `clear`, `reserve`, and an erase that reaches the end or
    is empty -/
def VOp.NoReloc (es : List Elem) : VOp → Prop
  | .erase i => i + 1 = es.length
  | .eraseRange i j => j = es.length ∨ i = j
  | _ => True

/-- histories in which every erase ends at the end of the vector or is empty -/
def ValidNoReloc (ps : List Param) : List Elem → List VOp → Prop
  | _, [] => True
  | es, op :: ops => op.Pre ps es ∧ op.NoReloc es ∧ ValidNoReloc ps (op.spec es) ops

theorem VOp.Ok.of_noReloc {ps : List Param} {w : Elem → Nat} {es : List Elem} {op : VOp} (hw : ∀ e, esz ps e ≤ w e) (free : Bool)
    (hpre : op.Pre ps es) (hnr : op.NoReloc es) : op.Ok ps w free es := by
  -- the licence is asked for only when there is a tail (`j < es.length`) and the range is not empty (`i < j`): `NoReloc` denies one
  cases op with
  | emplace e => exact ⟨hpre.1, hpre.2, hw e⟩
  | pop => exact hpre
  | erase i => exact ⟨hpre, fun htail _ => absurd hnr (Nat.ne_of_lt htail)⟩
  | eraseRange i j => exact ⟨hpre.1, hpre.2, fun htail hrange =>
      hnr.elim (fun hend => absurd hend (Nat.ne_of_lt htail)) (fun hempty => absurd hempty (Nat.ne_of_lt hrange))⟩
  | clear => trivial
  | reserve n b => trivial

/-- no relocation, so the refinement holds for non-trivial value types as well -/
theorem VarInv.history_noreloc {v : Vec} {es : List Elem} (h : VarInv v es) (junk : Nat → Nat)
    (ops : List VOp) (hv : ValidNoReloc v.ps es ops) :
    VarInv (ops.foldl (VOp.apply junk) v) (ops.foldl VOp.spec es) :=
  h.history_of junk (ValidNoReloc v.ps) (fun _ _ _ hv => ⟨.of_noReloc h.slot_ge _ hv.1 hv.2.1, hv.2.2⟩) ops hv

end Cntgs
