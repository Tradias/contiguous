/-
The size formulas (`calculate_element_size`, `calculate_needed_memory_size`, `allocate_memory`) against the greedy
placement.

The size fold of the code (`szGo` / `sizeStep`) walks the parameter list with an *abstract* address: an offset inside an
alignment bracket `A` ("the real address is ≡ offset (mod A)"), adding worst-case padding whenever the bracket does not
determine the padding.  `szGo_track` relates that walk to the real greedy placement `goEnd` of an element with
arbitrary varying counts: the real extent is at most `size + varying bytes`, and the real extent rounded up to the
storage alignment is at most `stride + varying bytes` (C02); both with equality as long as no parameter is a
VaryingSize and none is aligned above the bracket (C05: the footprint of a list without VaryingSize is exact; it is also
what the stride locator relies on).
-/
import Cntgs.SizeInv
namespace Cntgs

def NoVarying (ps : List Param) : Prop := ∀ p ∈ ps, p.kind ≠ .varying

/-- counts of an element of a list without VaryingSize: 1 for plain, the fixed size for FixedSize -/
def fixedCounts : List Param → List Nat → List Nat
  | p :: ps, f :: fs => (if p.kind = .fixed then f else 1) :: fixedCounts ps fs
  | _, _ => []

theorem fixedCounts_match : ∀ (ps : List Param) (fs : List Nat), ps.length ≤ fs.length →
    CountsMatch ps fs (fixedCounts ps fs)
  | [], _, _ => trivial
  | p :: ps, [], hl => absurd hl (Nat.not_succ_le_zero _)
  | p :: ps, f :: fs, hl =>
    ⟨fun h => if_neg (by rw [h]; nofun), fun h => if_pos h, fixedCounts_match ps fs (Nat.le_of_succ_le_succ hl)⟩

theorem CountsMatch.ok {ps : List Param} {fs cs : List Nat} (h : CountsMatch ps fs cs) : CountsOK ps cs := by
  fun_induction CountsMatch ps fs cs with
  | case1 => trivial
  | case2 p ps f fs c cs ih => exact ⟨h.1, ih h.2.2⟩
  | case3 => exact h.elim

theorem fixedCounts_ok : ∀ (ps : List Param) (fs : List Nat), ps.length ≤ fs.length → NoVarying ps → CountsOK ps (fixedCounts ps fs) :=
  fun ps fs hl _ => (fixedCounts_match ps fs hl).ok

theorem NoVarying.varOK {ps : List Param} (pp : Bool) (h : NoVarying ps) : VarOK pp ps := by
  fun_induction VarOK pp ps with
  | case1 => trivial
  | case2 pp p ps ih => exact ⟨fun hk => absurd hk (h p List.mem_cons_self), ih fun q hq => h q (List.mem_cons_of_mem p hq)⟩

/-- the offset at which `aligned_size_in_memory` (all three versions) starts the objects: worst case when the bracket
    `A` is smaller than the wanted alignment, otherwise the run-time alignment decision on the offset -/
def leadOff (al prev off A : Nat) : Nat :=
  if A < al then alignUp off A + al - A else alignIf (decide (prev < al)) al off

theorem sizeStep_eq_varying {p : Param} (hk : p.kind = .varying) (prev n off A f : Nat) :
    sizeStep p prev n off A f =
      ⟨0, leadOff p.al prev off A - off,
        (if min A (trailAl p.vb (lowBit (leadOff p.al prev off A))) < n
          then n - min A (trailAl p.vb (lowBit (leadOff p.al prev off A))) else 0),
        min A (trailAl p.vb (lowBit (leadOff p.al prev off A)))⟩ := by
  unfold sizeStep leadOff; simp only [hk]

theorem sizeStep_eq_nonvar {p : Param} (hk : p.kind ≠ .varying) (prev n off A f c : Nat)
    (hc1 : p.kind = .plain → c = 1) (hcf : p.kind = .fixed → c = f) :
    sizeStep p prev n off A f =
      ⟨if A < p.al then p.vb * c else off + (leadOff p.al prev off A - off + p.vb * c),
        leadOff p.al prev off A - off + p.vb * c,
        trailingPadding (decide (trailAl p.vb p.al < n)) n
          (if A < p.al then p.vb * c else off + (leadOff p.al prev off A - off + p.vb * c)) (max A p.al),
        max A p.al⟩ := by
  unfold sizeStep leadOff
  cases hkind : p.kind with
  | varying => exact absurd hkind hk
  | plain =>
    rw [hc1 hkind, Nat.mul_one]
    by_cases h : A < p.al <;> simp only [h, ↓reduceIte] <;> rfl
  | fixed =>
    rw [hcf hkind]
    by_cases h : A < p.al <;> simp only [h, ↓reduceIte]

theorem leadOff_sound {al prev off A : Nat} (m : Nat) (hA : IsPow2 A) (hal : IsPow2 al) (hprev : IsPow2 prev)
    (hclaim : min prev A ∣ off) :
    off ≤ leadOff al prev off A ∧ alignUp (m * A + off) al ≤ m * A + leadOff al prev off A ∧
    (al ≤ A → alignUp (m * A + off) al = m * A + leadOff al prev off A) := by
  unfold leadOff
  rcases Nat.lt_or_ge A al with hlt | hle
  · -- up to the next multiple of `A`, which the bracket knows, then the worst case `al - A`
    -- `x` = the address rounded up to `A`; the bracket knows it: `x = m * A + alignUp off A`
    have hx : alignUp (m * A + off) A = m * A + alignUp off A := alignUp_add_mul m A off A hA.pos (Nat.dvd_refl A)
    have hmono : alignUp (m * A + off) al ≤ alignUp (alignUp (m * A + off) A) al :=
      alignUp_mono hal.pos (alignUp_ge (m * A + off) A hA.pos)
    have hpad : alignUp (alignUp (m * A + off) A) al ≤ alignUp (m * A + off) A + (al - A) := by
      have := (alignUp_pad hA hal (alignUp_dvd (m * A + off) A)).1
      rwa [if_pos hlt] at this
    have h := Nat.le_trans hmono hpad
    rw [hx, Nat.add_assoc] at h
    rw [if_pos hlt, Nat.add_sub_assoc (Nat.le_of_lt hlt)]
    exact ⟨Nat.le_trans (alignUp_ge off A hA.pos) (Nat.le_add_right _ _), h, fun h => absurd hlt (Nat.not_lt.mpr h)⟩
  · rw [if_neg (Nat.not_lt.mpr hle), alignIf_claim hprev hA hal hle hclaim]
    have hau := alignUp_add_mul m A off al hal.pos (hal.dvd_of_le hA hle)
    exact ⟨alignUp_ge off al hal.pos, Nat.le_of_eq hau, fun _ => hau⟩

theorem trailingPadding_sound {needs : Bool} {n off A addr m : Nat} (hn : IsPow2 n) (hA : IsPow2 A)
    (hk : addr = m * A + off) (hneeds : needs = false → n ∣ addr) :
    alignUp addr n ≤ addr + trailingPadding needs n off A ∧
    (n ≤ A → alignUp addr n = addr + trailingPadding needs n off A) := by
  unfold trailingPadding
  rcases Nat.lt_or_ge A n with hb | hb
  · rw [if_pos hb]
    refine ⟨?_, fun h => absurd hb (Nat.not_lt.mpr h)⟩
    -- the bracket is too small to know the padding: worst case from what it knows to divide `addr`
    by_cases h0 : off = 0
    · rw [if_pos h0]
      exact (alignUp_pad hA hn (by rw [hk, h0]; exact Nat.dvd_mul_left _ _)).1
    · rw [if_neg h0]
      have ho := Nat.pos_of_ne_zero h0
      exact (alignUp_pad (pow2_trailAl ho hA) hn ((Cong.of_eq hk).trailAl_dvd hA ho)).1
  · rw [if_neg (Nat.not_lt.mpr hb)]
    have hd : n ∣ m * A := Nat.dvd_trans (hn.dvd_of_le hA hb) (Nat.dvd_mul_left _ _)
    have e : alignUp addr n = addr + (alignUp off n - off) := by
      rw [hk, alignUp_add_of_dvd _ off n hn.pos hd, Nat.add_assoc, Nat.add_sub_cancel' (alignUp_ge off n hn.pos)]
    rw [alignIf_eq_alignUp hn.pos fun h => (Nat.dvd_add_right hd).mp (hk ▸ hneeds h)]
    exact ⟨Nat.le_of_eq e, fun _ => e⟩

/-- what one step of `calculate_element_size` (result `r`) guarantees of the end `addr'` of the parameter's objects -/
structure SizeStepOK (p : Param) (c n A addr addr' : Nat) (r : ASM) : Prop where
  /-- the new bracket is a power of two inside the old one joined with `p.al` -/
  pow : IsPow2 r.alignment
  le : r.alignment ≤ max A p.al
  /-- the new state describes `addr'` -/
  known : ∃ m', addr' = m' * r.alignment + r.offset
  /-- the size added covers the real advance, varying bytes apart -/
  size_le : addr' ≤ addr + r.size + (if p.kind = .varying then p.vb * c else 0)
  /-- the padding covers the real padding up to `n`, exactly if the bracket knows `n` -/
  pad : IsPow2 n → alignUp addr' n ≤ addr' + r.padding ∧ (n ≤ r.alignment → alignUp addr' n = addr' + r.padding)
  /-- behind a plain parameter the offset is positive (what a following VaryingSize needs) -/
  pos : p.kind = .plain → 0 < r.offset
  /-- without VaryingSize and with `p.al` inside the bracket nothing is over-estimated -/
  tight : p.kind ≠ .varying → p.al ≤ A → r.alignment = A ∧ addr' = addr + r.size

/-- One step of `calculate_element_size` (result `r`) against the real placement of `c` objects of the parameter (end
    `addr'`), from a state `(off, A)` that describes `addr` truthfully and a claim `prev` that is true of `off` as far
    as `A` can see.  `hoff`: `lowBit 0 = 0` is no alignment, so a VaryingSize parameter must not stand at offset 0 of its
    bracket; it does not, because it follows its size, a plain parameter, behind which the offset is positive (the
    field `pos`). -/
theorem sizeStep_sound (p : Param) (c f prev n off A addr : Nat) {r : ASM} {addr' : Nat} (hw : WfParam p)
    (hc1 : p.kind = .plain → c = 1) (hcf : p.kind = .fixed → c = f) (hoff : p.kind = .varying → 0 < off)
    (hA : IsPow2 A) (hprev : IsPow2 prev) (hclaim : min prev A ∣ off) (hknown : ∃ m, addr = m * A + off)
    (hr : sizeStep p prev n off A f = r) (hend : alignUp addr p.al + p.vb * c = addr') :
    SizeStepOK p c n A addr addr' r := by
  subst hend
  obtain ⟨m, hm⟩ := hknown
  obtain ⟨hal, hvb⟩ := hw
  -- the padding `d` that the walk puts in front of the objects is at least the real one, and is the real one if the
  -- bracket covers `p.al`
  obtain ⟨hle, hlead, hexact⟩ := leadOff_sound m hA hal hprev hclaim
  obtain ⟨d, hd⟩ := Nat.exists_eq_add_of_le hle
  rw [hd, ← Nat.add_assoc, ← hm] at hlead hexact
  have hA' := pow2_max hA hal
  by_cases hk : p.kind = .varying
  · rw [sizeStep_eq_varying hk, hd, Nat.add_sub_cancel_left] at hr
    subst hr
    have hao : 0 < off + d := Nat.add_pos_left (hoff hk) d
    have hlo := (lowBit_spec _ hao).1
    have ht : IsPow2 (min A (trailAl p.vb (lowBit (off + d)))) := pow2_min hA (pow2_trailAl hvb hlo)
    -- what the bracket knows of the start of the span is true of it, hence the new bracket of its end
    have hstart : trailAl (off + d) A ∣ alignUp addr p.al := by
      rcases Nat.lt_or_ge A p.al with hlt | hge
      · exact Nat.dvd_trans (dvd_min_right hlo hA) (hA.dvd_of_le_of_dvd hal (Nat.le_of_lt hlt) (alignUp_dvd _ _))
      · exact (Cong.of_eq (by rw [hexact hge, hm, Nat.add_assoc])).trailAl_dvd hA hao
    have htd : min A (trailAl p.vb (lowBit (off + d))) ∣ alignUp addr p.al + p.vb * c := by
      rw [Nat.min_comm, ← trailAl_min]; exact trailAl_dvd_add_mul c hvb (pow2_trailAl hao hA) hstart
    obtain ⟨q, hq⟩ := htd
    exact { pow := ht, le := Nat.le_trans (Nat.min_le_left _ _) (Nat.le_max_left _ _),
            known := ⟨q, by rw [hq, Nat.mul_comm]; rfl⟩,
            size_le := by rw [if_pos hk]; exact Nat.add_le_add_right hlead _,
            pad := fun hn => alignUp_pad ht hn ⟨q, hq⟩,
            pos := fun h => (nomatch hk.symm.trans h), tight := fun h => absurd hk h }
  · rw [sizeStep_eq_nonvar hk prev n off A f c hc1 hcf, hd, Nat.add_sub_cancel_left] at hr
    subst hr
    -- the new state describes the end of the objects
    have hkn : ∃ m', alignUp addr p.al + p.vb * c = m' * max A p.al +
        (if A < p.al then p.vb * c else off + (d + p.vb * c)) := by
      rcases Nat.lt_or_ge A p.al with hlt | hge
      · -- the bracket restarts at the parameter's alignment
        obtain ⟨q, hq⟩ := alignUp_dvd addr p.al
        exact ⟨q, by rw [if_pos hlt, Nat.max_eq_right (Nat.le_of_lt hlt), hq, Nat.mul_comm]⟩
      · exact ⟨m, by rw [if_neg (Nat.not_lt.mpr hge), Nat.max_eq_left hge, hexact hge, hm, Nat.add_assoc, Nat.add_assoc]⟩
    obtain ⟨m', hkn⟩ := hkn
    -- when the code claims "no trailing alignment needed", the real end is a multiple of `n`
    have hpad := fun hn : IsPow2 n => trailingPadding_sound hn hA' hkn fun hd =>
      hn.dvd_of_le_of_dvd (pow2_trailAl hvb hal) (Nat.not_lt.mp (of_decide_eq_false hd))
        (trailAl_dvd_add_mul c hvb hal (alignUp_dvd _ _))
    refine { pow := hA', le := Nat.le_refl _, known := ⟨m', hkn⟩,
             size_le := by rw [if_neg hk, Nat.add_zero, ← Nat.add_assoc]; exact Nat.add_le_add_right hlead _,
             pad := hpad, pos := fun hpl => ?_,
             tight := fun _ hge => ⟨Nat.max_eq_left hge, by rw [hexact hge, Nat.add_assoc]⟩ }
    rw [hc1 hpl, Nat.mul_one]
    split
    · exact hvb
    · exact Nat.add_pos_right _ (Nat.add_pos_right _ hvb)

/-- `SzInv` said of the real address: the size walk knows `addr` modulo its bracket, and what the trailing walk knows
    and claims is true of `addr` as far as that bracket can see -/
theorem szInv_iff {o a prev : Nat} {st : SzSt} {addr : Nat} (pa : IsPow2 a) (pA : IsPow2 st.alignment)
    (pprev : IsPow2 prev) (known : ∃ m, addr = m * st.alignment + st.offset) :
    SzInv o a prev st addr ↔ Cong addr o (min a st.alignment) ∧ min prev st.alignment ∣ addr := by
  obtain ⟨m, hm⟩ := known
  have hk : Cong addr st.offset st.alignment := Cong.of_eq hm
  have d1 := dvd_min_right pa pA
  have d2 := dvd_min_right pprev pA
  constructor
  · intro h
    exact ⟨(hk.mono d1).trans h.cong, hk.dvd d2 h.claim⟩
  · intro ⟨h1, h2⟩
    exact ⟨pa, pA, pprev, (hk.symm.mono d1).trans h1, hk.symm.dvd d2 h2, ⟨m, hm⟩⟩

theorem szInv_step {p : Param} {c f prev n o a o' a' t : Nat} {st : SzSt} {r : ASM} {addr : Nat} (hw : WfParam p)
    (hc1 : p.kind = .plain → c = 1) (hcf : p.kind = .fixed → c = f) (hoff : p.kind = .varying → 0 < st.offset)
    (h : SzInv o a prev st addr) (ht : trailingStep p o a = (o', a', t))
    (hr : sizeStep p prev n st.offset st.alignment f = r) :
    SzInv o' a' t ⟨r.offset, r.alignment, st.size + r.size, r.padding⟩ (alignUp addr p.al + p.vb * c) := by
  obtain ⟨hc, hd⟩ := (szInv_iff h.pa h.pA h.pprev h.known).mp h
  have ts := trailingStep_sound (c := c) hw hc1 h.pa h.pA hc ht
  have ss := sizeStep_sound p c f prev n st.offset st.alignment addr hw hc1 hcf hoff h.pA h.pprev h.claim h.known hr rfl
  -- the new size bracket is inside the cap `max st.alignment p.al` of the trailing step
  have hg := pow2_max h.pA hw.1
  exact (szInv_iff ts.pow_a ss.pow ts.pow_t ss.known).mpr
    ⟨ts.cong.mono (min_dvd_min ts.pow_a ss.pow hg ss.le), Nat.dvd_trans (min_dvd_min ts.pow_t ss.pow hg ss.le) ts.claim⟩

/-- the `next_alignment` that the padding of the fold's result is computed for: the one of the last parameter -/
theorem take_getLast_cons {α β : Type} {ps : List α} {n nl : β} {ns : List β} (hl : ps.length ≤ ns.length)
    (h : ((n :: ns).take (ps.length + 1)).getLast? = some nl) :
    (ps = [] ∧ nl = n) ∨ (ns.take ps.length).getLast? = some nl := by
  cases ps with
  | nil => exact .inl ⟨rfl, (Option.some.inj h).symm⟩
  | cons q qs =>
    cases ns with
    | nil => exact absurd hl (Nat.not_succ_le_zero _)
    | cons n2 ns2 => exact .inr h

/-- the bound of one step, of size `t`, chained with the bound of the rest of the fold -/
theorem track_le {g s t a a' z v w : Nat} (h : a' ≤ a + t + v) (r : g + (s + t) ≤ a' + z + w) :
    g + s ≤ a + z + (v + w) := by omega

theorem track_eq {g s t a a' z : Nat} (h : a' = a + t) (r : g + (s + t) = a' + z) : g + s = a + z := by omega

/-- The fold of `calculate_element_size` against the greedy placement of an element with counts `cs`, from a state in
    which both compile-time walks are true of the real address: size and padding are sufficient, and exact for a list
    without VaryingSize whose alignments the bracket of the size walk covers. -/
theorem szGo_track {ps : List Param} {fs cs ns : List Nat} {prev o a : Nat} {st fin : SzSt} {addr : Nat} {pp : Bool}
    (hwf : ∀ p ∈ ps, WfParam p) (hcm : CountsMatch ps fs cs) (hln : ps.length ≤ ns.length) (hvo : VarOK pp ps)
    (hpp : pp = true → 0 < st.offset) (hinv : SzInv o a prev st addr)
    (hfin : szGo ps fs (trailingGo ps o a) ns prev st = fin) :
    goEnd ps cs addr + st.size ≤ addr + fin.size + varBytes ps cs ∧
    (∀ nl, (ns.take ps.length).getLast? = some nl → IsPow2 nl →
      alignUp (goEnd ps cs addr) nl ≤ goEnd ps cs addr + fin.padding ∧
      (nl ≤ fin.alignment → alignUp (goEnd ps cs addr) nl = goEnd ps cs addr + fin.padding)) ∧
    (NoVarying ps → (∀ p ∈ ps, p.al ≤ st.alignment) →
      goEnd ps cs addr + st.size = addr + fin.size ∧ fin.alignment = st.alignment) := by
  fun_induction CountsMatch ps fs cs generalizing ns prev o a st addr pp with
  | case1 => subst hfin; exact ⟨Nat.le_refl _, nofun, fun _ _ => ⟨rfl, rfl⟩⟩
  | case3 => exact hcm.elim
  | case2 p ps f fs c cs ih =>
    obtain ⟨hc1, hcf, hcm⟩ := hcm
    cases ns with
    | nil => exact absurd hln (Nat.not_succ_le_zero _)
    | cons n ns =>
    obtain ⟨hw, hwf'⟩ := List.forall_mem_cons.mp hwf
    have hln' : ps.length ≤ ns.length := Nat.le_of_succ_le_succ hln
    have hoff : p.kind = .varying → 0 < st.offset := fun hk => hpp (hvo.1 hk)
    have ss := sizeStep_sound p c f prev n st.offset st.alignment addr hw hc1 hcf hoff
      hinv.pA hinv.pprev hinv.claim hinv.known rfl rfl
    obtain ⟨ihSize, ihPad, ihExact⟩ := ih hwf' hcm hln' hvo.2 (fun hh => ss.pos (of_decide_eq_true hh))
      (szInv_step (n := n) hw hc1 hcf hoff hinv rfl rfl) hfin
    refine ⟨track_le ss.size_le ihSize, fun nl hnl hnlp => ?_, fun hnv hale => ?_⟩
    · -- the padding is that of the last step: this one if `ps = []`, else the fold's
      rcases take_getLast_cons hln' hnl with ⟨rfl, rfl⟩ | hnl'
      · exact hfin ▸ ss.pad hnlp
      · exact ihPad nl hnl' hnlp
    · obtain ⟨hnvp, hnv'⟩ := List.forall_mem_cons.mp hnv
      obtain ⟨halep, hale'⟩ := List.forall_mem_cons.mp hale
      obtain ⟨hA, hadv⟩ := ss.tight hnvp halep
      obtain ⟨hrest, hAfin⟩ := ihExact hnv' fun q hq => Nat.le_trans (hale' q hq) (Nat.le_of_eq hA.symm)
      exact ⟨track_eq hadv hrest, hAfin.trans hA⟩

theorem largestGo_length (ps : List Param) (cnt cur : Nat) : (largestGo ps cnt cur).length = cnt + ps.length := by
  fun_induction largestGo ps cnt cur with
  | case1 => exact List.length_replicate
  | case2 p ps cnt cur cur' hk ih =>
    rw [List.length_append, List.length_replicate, ih, Nat.zero_add]; exact Nat.add_right_comm cnt 1 _
  | case3 p ps cnt cur cur' hk ih => rw [ih]; exact Nat.add_right_comm cnt 1 _

theorem nextAls_length (ps : List Param) (hne : ps ≠ []) : (nextAls ps).length = ps.length := by
  rw [nextAls, largest, List.length_append, List.length_tail, largestGo_length, Nat.zero_add]
  exact Nat.sub_add_cancel (List.length_pos_iff.mpr hne)

/-- the `next_alignment` of the last parameter is the storage alignment: where the next element starts -/
theorem nextAls_last (ps : List Param) (hne : ps ≠ []) :
    ((nextAls ps).take ps.length).getLast? = some (storageAl ps) := by
  rw [← nextAls_length ps hne, List.take_length]; exact List.getLast?_concat

theorem elemSize_track (ps : List Param) (fs cs : List Nat) (hwf : ∀ p ∈ ps, WfParam p) (hne : ps ≠ [])
    (hcm : CountsMatch ps fs cs) (hvo : VarOK false ps) :
    goEnd ps cs 0 ≤ (elemSize ps fs).size + varBytes ps cs ∧
    alignUp (goEnd ps cs 0) (storageAl ps) ≤ (elemSize ps fs).stride + varBytes ps cs ∧
    (NoVarying ps → (elemSize ps fs).size = goEnd ps cs 0 ∧
      (elemSize ps fs).stride = alignUp (goEnd ps cs 0) (storageAl ps)) := by
  have hS := storageAl_pow2 ps hwf hne
  have hinit : SzInv 0 (storageAl ps) (storageAl ps) ⟨0, storageAl ps, 0, 0⟩ 0 :=
    ⟨hS, hS, hS, Cong.refl _ _, Nat.dvd_zero _, ⟨0, (Nat.zero_mul _).symm⟩⟩
  obtain ⟨h1, h2, h3⟩ := szGo_track hwf hcm (Nat.le_of_eq (nextAls_length ps hne).symm) hvo nofun hinit rfl
  obtain ⟨h2, h2e⟩ := h2 _ (nextAls_last ps hne) hS
  rw [Nat.add_zero, Nat.zero_add] at h1
  refine ⟨h1, ?_, fun hnv => ?_⟩
  · exact Nat.le_trans (Nat.le_trans h2 (Nat.add_le_add_right h1 _)) (Nat.le_of_eq (Nat.add_right_comm _ _ _))
  · obtain ⟨e1, eA⟩ := h3 hnv (al_le_storageAl ps)
    rw [Nat.add_zero, Nat.zero_add] at e1
    exact ⟨e1.symm, by rw [h2e (Nat.le_of_eq eA.symm), e1]; rfl⟩

/-- For a list without `VaryingSize`, `calculate_element_size` is exact: the size is the end of the greedy layout of one
element at offset 0, and the stride is that size rounded up to the storage alignment. -/
theorem elemSize_fixed (ps : List Param) (fs : List Nat) (hwf : ∀ p ∈ ps, WfParam p) (hne : ps ≠ [])
    (hnv : NoVarying ps) (hlf : ps.length ≤ fs.length) :
    (elemSize ps fs).size = goEnd ps (fixedCounts ps fs) 0 ∧
    (elemSize ps fs).stride = alignUp (goEnd ps (fixedCounts ps fs) 0) (storageAl ps) :=
  (elemSize_track ps fs (fixedCounts ps fs) hwf hne (fixedCounts_match ps fs hlf) (hnv.varOK _)).2.2 hnv

theorem elemSize_size_le (ps : List Param) (fs : List Nat) : (elemSize ps fs).size ≤ (elemSize ps fs).stride :=
  Nat.le_add_right _ _

/-- `calculate_needed_memory_size`: all strides but the last, one size, and the varying bytes -/
theorem needed_succ (n B : Nat) (sz : ElemSize) (h : sz.size ≤ sz.stride) :
    needed (n + 1) B sz = sz.stride * n + (sz.size + B) := by
  rw [needed, if_neg n.succ_ne_zero, Nat.mul_succ, ← Nat.add_assoc, Nat.add_sub_assoc (Nat.sub_le _ _),
    Nat.sub_sub_self h, Nat.add_comm B, Nat.add_assoc, Nat.add_comm B]

theorem stride_mul_add_le_units (S N B k : Nat) (sz : ElemSize) (hS : 0 < S) (h : sz.size ≤ sz.stride) (hk : k < N) :
    sz.stride * k + sz.size + B ≤ units (needed N B sz) S * S := by
  cases N with
  | zero => exact absurd hk (Nat.not_lt_zero k)
  | succ n =>
    refine Nat.le_trans ?_ (le_units_mul (needed (n + 1) B sz) S hS)
    rw [needed_succ n B sz h, ← Nat.add_assoc]
    exact Nat.add_le_add_right (Nat.add_le_add_right (Nat.mul_le_mul_left _ (Nat.le_of_lt_succ hk)) _) _

/-- the block has room for `N` whole strides when the stride is the size rounded up to the unit: the rounding to
    whole units reaches the end of the last stride -/
theorem stride_mul_le_units (S N B : Nat) (sz : ElemSize) (hS : 0 < S) (h : sz.stride = alignUp sz.size S) :
    sz.stride * N ≤ units (needed N B sz) S * S := by
  rw [units_mul_eq_alignUp _ _ hS]
  cases N with
  | zero => exact Nat.zero_le _
  | succ n =>
    rw [needed_succ n B sz (h ▸ alignUp_ge sz.size S hS),
      alignUp_add_of_dvd _ _ _ hS (Nat.dvd_trans (h ▸ alignUp_dvd _ _) (Nat.dvd_mul_right _ _)), Nat.mul_succ]
    exact Nat.add_le_add_left (h ▸ alignUp_mono hS (Nat.le_add_right sz.size B)) _

end Cntgs
