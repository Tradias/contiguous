/- what the statements about `calculate_element_size` speak of: the counts an element may have, its varying bytes, and
   the invariant between the two compile-time walks and the real address -/
import Cntgs.LayoutProofs
namespace Cntgs

/-- `(o, a)`: state of the trailing-alignment walk (`trailingGo`), `prev`: its claim for the address reached so far;
    `st`: state of the size walk; `addr`: the real address (relative to the storage-aligned element start) -/
structure SzInv (o a prev : Nat) (st : SzSt) (addr : Nat) : Prop where
  pa : IsPow2 a
  pA : IsPow2 st.alignment
  pprev : IsPow2 prev
  cong : Cong st.offset o (min a st.alignment)
  claim : min prev st.alignment ∣ st.offset
  known : ∃ m, addr = m * st.alignment + st.offset

/-- bytes of VaryingSize payload of an element with the given counts -/
def varBytes : List Param → List Nat → Nat
  | p :: ps, c :: cs => (if p.kind = .varying then p.vb * c else 0) + varBytes ps cs
  | _, _ => 0

/-- counts of an element that fits a vector constructed with fixed sizes `fs`: 1 for plain, the fixed size for FixedSize,
    anything for VaryingSize -/
def CountsMatch : List Param → List Nat → List Nat → Prop
  | [], _, [] => True
  | p :: ps, f :: fs, c :: cs => (p.kind = .plain → c = 1) ∧ (p.kind = .fixed → c = f) ∧ CountsMatch ps fs cs
  | _, _, _ => False

/-- every VaryingSize parameter is directly preceded by a plain one (its size; `elementTraits.hpp:71`) -/
def VarOK : Bool → List Param → Prop
  | _, [] => True
  | pp, p :: ps => (p.kind = .varying → pp = true) ∧ VarOK (decide (p.kind = .plain)) ps

end Cntgs
