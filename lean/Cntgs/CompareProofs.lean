/-
Order theory behind C14, over an arbitrary `lt`: lexicographical comparison (`lexBy`) over a strict weak order is a strict
weak order, and it commutes with cutting both sequences into chunks of one length; the conjunction of key comparisons behind
the element-level `<` is only a strict partial order.
-/
import Cntgs.Compare
namespace Cntgs

/-- strict weak order, in the asymmetric + negatively transitive form -/
structure SWO {α : Type} (lt : α → α → Bool) : Prop where
  asymm : ∀ a b, lt a b = true → lt b a = false
  negtrans : ∀ a b c, lt a b = false → lt b c = false → lt a c = false

theorem irrefl_of_asymm {α} {lt : α → α → Bool} (h : ∀ a b, lt a b = true → lt b a = false) (a : α) : lt a a = false := by
  cases hl : lt a a
  · rfl
  · exact hl.symm.trans (h a a hl)

theorem SWO.trans {α} {lt : α → α → Bool} (h : SWO lt) {a b c : α} (hab : lt a b = true) (hbc : lt b c = true) :
    lt a c = true := by
  cases hac : lt a c
  · -- `¬ a < c` and `¬ c < b` (asymmetry of `b < c`) would give `¬ a < b`
    have hnab : lt a b = false := h.negtrans a c b hac (h.asymm b c hbc)
    rw [hab] at hnab; cases hnab
  · rfl

theorem SWO.comap {α β} {lt : β → β → Bool} (h : SWO lt) (f : α → β) : SWO (fun a b => lt (f a) (f b)) :=
  ⟨fun a b => h.asymm (f a) (f b), fun a b c => h.negtrans (f a) (f b) (f c)⟩

theorem lexBy_cons_cons {α} (lt : α → α → Bool) (a b : α) (as bs : List α) :
    lexBy lt (a :: as) (b :: bs) = (lt a b || !lt b a && lexBy lt as bs) := by
  rw [lexBy]
  cases lt a b <;> cases lt b a <;> rfl

theorem lexBy_nil_right {α} (lt : α → α → Bool) (x : List α) : lexBy lt x [] = false := by
  cases x <;> rfl

/-- the emptiness tests with which the whole-buffer path of `vector <` starts are the first two equations of `lexBy` -/
theorem lexBy_guarded {α} (lt : α → α → Bool) (a b : List α) :
    (if a.isEmpty then !b.isEmpty else if b.isEmpty then false else lexBy lt a b) = lexBy lt a b := by
  cases a <;> cases b <;> rfl

theorem lexBy_asymm_of {α} {lt : α → α → Bool} (hasym : ∀ a b, lt a b = true → lt b a = false) :
    ∀ x y : List α, lexBy lt x y = true → lexBy lt y x = false := by
  intro x
  induction x with
  | nil => intro y _; exact lexBy_nil_right lt y
  | cons a as ih =>
    intro y h
    cases y with
    | nil => cases h
    | cons b bs =>
      rw [lexBy_cons_cons] at h ⊢
      cases hab : lt a b
      · cases hba : lt b a
        · rw [hab, hba] at h
          exact ih bs h
        · rw [hab, hba] at h
          cases h
      · rw [hasym a b hab]
        rfl

theorem lexBy_swo {α} {lt : α → α → Bool} (h : SWO lt) : SWO (lexBy lt) := by
  refine ⟨lexBy_asymm_of h.asymm, fun x => ?_⟩
  induction x with
  | nil =>
    intro y z hxy hyz
    cases y with
    | nil => exact hyz
    | cons b bs => cases hxy
  | cons a as ih =>
    intro y z hxy hyz
    cases z with
    | nil => exact lexBy_nil_right lt _
    | cons c cs =>
      cases y with
      | nil => cases hyz
      | cons b bs =>
        rw [lexBy_cons_cons, Bool.or_eq_false_iff] at hxy hyz ⊢
        refine ⟨h.negtrans a b c hxy.1 hyz.1, ?_⟩
        cases hca : lt c a
        · -- `¬ b < c` and `¬ c < a` give `¬ b < a`; then `¬ c < a` and `¬ a < b` give `¬ c < b`: the tails decide
          rw [h.negtrans b c a hyz.1 hca] at hxy
          rw [h.negtrans c a b hca hxy.1] at hyz
          exact ih bs cs hxy.2 hyz.2
        · rfl

theorem lexLt_swo : SWO lexLt :=
  lexBy_swo
    ⟨fun _ _ h => decide_eq_false (Nat.lt_asymm (of_decide_eq_true h)),
     fun a b c hab hbc =>
      have hba : b ≤ a := Nat.not_lt.mp (of_decide_eq_false hab)
      have hcb : c ≤ b := Nat.not_lt.mp (of_decide_eq_false hbc)
      decide_eq_false (Nat.not_lt.mpr (Nat.le_trans hcb hba))⟩

theorem lexBy_append_same_len {α} (lt : α → α → Bool) : ∀ (x y X Y : List α), x.length = y.length →
    lexBy lt (x ++ X) (y ++ Y) = (lexBy lt x y || !lexBy lt y x && lexBy lt X Y) := by
  intro x
  induction x with
  | nil =>
    intro y X Y hl
    cases List.length_eq_zero_iff.mp hl.symm
    rfl
  | cons p x ih =>
    intro y X Y hl
    cases y with
    | nil => cases hl
    | cons q y =>
      rw [List.cons_append, List.cons_append, lexBy_cons_cons, lexBy_cons_cons, lexBy_cons_cons, ih y X Y (Nat.succ.inj hl)]
      cases lt p q <;> cases lt q p <;> rfl

theorem lexBy_flatMap {α β : Type} (lt : β → β → Bool) (R : α → List β) (c : Nat) (hc : 0 < c) : ∀ (a b : List α),
    (∀ e ∈ a, (R e).length = c) → (∀ e ∈ b, (R e).length = c) →
    lexBy lt (a.flatMap R) (b.flatMap R) = lexBy (fun x y => lexBy lt (R x) (R y)) a b := by
  intro a
  induction a with
  | nil =>
    intro b _ hb
    cases b with
    | nil => rfl
    | cons y ys =>
      -- the first chunk is not empty
      have hy := hb y List.mem_cons_self
      rw [List.flatMap_cons]
      cases hR : R y with
      | nil => rw [hR] at hy; exact absurd hy (Nat.ne_of_lt hc)
      | cons _ _ => rfl
  | cons x xs ih =>
    intro b ha hb
    cases b with
    | nil => exact lexBy_nil_right lt _
    | cons y ys =>
      rw [List.forall_mem_cons] at ha hb
      rw [List.flatMap_cons, List.flatMap_cons, lexBy_append_same_len lt _ _ _ _ (ha.1.trans hb.1.symm), ih ys ha.2 hb.2,
        lexBy_cons_cons]

theorem ltKeys_length (ps : List Param) (a b : Elem) : (ltKeys ps a).length = (ltKeys ps b).length := by
  simp [ltKeys]

theorem allLt_trans : ∀ (a b c : List (List Nat)), allLt a b = true → allLt b c = true → allLt a c = true := by
  intro a
  induction a with
  | nil => intro b c hab hbc; cases b with | nil => exact hbc | cons _ _ => cases hab
  | cons x xs ih =>
    intro b c hab hbc
    cases b with
    | nil => cases hab
    | cons y ys =>
      cases c with
      | nil => cases hbc
      | cons z zs =>
        rw [allLt, Bool.and_eq_true] at hab hbc ⊢
        exact ⟨lexLt_swo.trans hab.1 hbc.1, ih ys zs hab.2 hbc.2⟩

theorem allLt_length : ∀ (a b : List (List Nat)), allLt a b = true → a.length = b.length := by
  intro a
  induction a with
  | nil => intro b h; cases b with | nil => rfl | cons _ _ => cases h
  | cons x xs ih =>
    intro b h
    cases b with
    | nil => cases h
    | cons y ys => rw [allLt, Bool.and_eq_true] at h; exact congrArg Nat.succ (ih ys h.2)

theorem keysLt_asymm (a b : List (List Nat)) (h : keysLt a b = true) : keysLt b a = false := by
  cases a with
  | nil => cases h
  | cons x xs =>
    cases b with
    | nil => cases h
    | cons y ys =>
      rw [keysLt, allLt, Bool.and_eq_true, Bool.and_eq_true] at h
      rw [keysLt, allLt, lexLt_swo.asymm x y h.2.1]
      rfl

theorem keysLt_trans (a b c : List (List Nat)) (h1 : keysLt a b = true) (h2 : keysLt b c = true) : keysLt a c = true := by
  rw [keysLt, Bool.and_eq_true] at h1 h2 ⊢
  exact ⟨h1.1, allLt_trans _ _ _ h1.2 h2.2⟩

end Cntgs
