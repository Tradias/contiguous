/-
Reference assignment and swap through the run tables act field by field (C11, C12).
-/
import Cntgs.RefIter
import Cntgs.RunsProofs
namespace Cntgs

theorem copyFields_length (s t : Elem) (k last : Nat) : (copyFields s t k last).length = t.length := by
  rw [copyFields, List.length_map, List.length_range]

theorem copyFields_getD (s t : Elem) (k last j : Nat) (hj : j < t.length) :
    (copyFields s t k last).getD j [] = if k ≤ j ∧ j ≤ last then s.getD j [] else t.getD j [] := by
  rw [copyFields, List.getD_eq_getElem?_getD, List.getElem?_map, List.getElem?_range hj]
  rfl

theorem getD_set (a : Elem) (k j : Nat) (x : List Nat) (hk : k < a.length) :
    (a.set k x).getD j [] = if j = k then x else a.getD j [] := by
  rw [List.getD_eq_getElem?_getD, List.getD_eq_getElem?_getD]
  by_cases h : j = k
  · rw [if_pos h, h, List.getElem?_set_self hk]; rfl
  · rw [if_neg h, List.getElem?_set_ne (Ne.symm h)]

/-- the values a moved-from field is left with -/
def zeros (l : List Nat) : List Nat := l.map (fun _ => 0)

/-- field `j` of both elements of a state of the assignment / swap fold -/
def fields (st : Elem × Elem) (j : Nat) : List Nat × List Nat := (st.1.getD j [], st.2.getD j [])

theorem fields_ext {p q : Elem × Elem} {n : Nat} (hp : p.1.length = n ∧ p.2.length = n) (hq : q.1.length = n ∧ q.2.length = n)
    (h : ∀ j, j < n → fields p j = fields q j) : p = q := by
  have ext : ∀ a b : Elem, a.length = n → b.length = n → (∀ j, j < n → a.getD j [] = b.getD j []) → a = b :=
    fun a b ha hb hab => List.ext_getElem (ha.trans hb.symm) fun j h1 _ =>
      (List.getElem_eq_getD []).trans ((hab j (ha ▸ h1)).trans (List.getElem_eq_getD []).symm)
  exact Prod.ext (ext _ _ hp.1 hq.1 fun j hj => congrArg Prod.fst (h j hj)) (ext _ _ hp.2 hq.2 fun j hj => congrArg Prod.snd (h j hj))

/-- **a fold steered by a run table acts on every field exactly once**: if step `k` applies `g` to the fields its table
    entry covers and leaves the others alone, the fold turns `(a, b)` into the pair whose fields are `g` of those of `(a, b)` -/
theorem RunsOK.fold_fields {pred ps T} (hok : RunsOK pred ps T) (g : Nat → List Nat × List Nat → List Nat × List Nat)
    (f : Elem × Elem → Nat → Elem × Elem)
    (hstep : ∀ k st, k < ps.length → st.1.length = ps.length ∧ st.2.length = ps.length →
      ((f st k).1.length = ps.length ∧ (f st k).2.length = ps.length) ∧
      ∀ j, j < ps.length → ((T k).covers k j → fields (f st k) j = g j (fields st j)) ∧
        (¬ (T k).covers k j → fields (f st k) j = fields st j))
    (a b x y : Elem) (hab : a.length = ps.length ∧ b.length = ps.length) (hxy : x.length = ps.length ∧ y.length = ps.length)
    (hg : ∀ j, j < ps.length → fields (x, y) j = g j (fields (a, b) j)) :
    (List.range ps.length).foldl f (a, b) = (x, y) := by
  -- after the steps `< m`, a field has had `g` applied iff the step that covers it is among them
  have key : ∀ m, m ≤ ps.length → ((List.range m).foldl f (a, b)).1.length = ps.length ∧
      ((List.range m).foldl f (a, b)).2.length = ps.length ∧ ∀ j, j < ps.length → ∀ k, (T k).covers k j →
        fields ((List.range m).foldl f (a, b)) j = if k < m then g j (fields (a, b) j) else fields (a, b) j := by
    intro m
    induction m with
    | zero => exact fun _ => ⟨hab.1, hab.2, fun _ _ _ _ => rfl⟩
    | succ m ih =>
      intro hm
      rw [List.range_succ, List.foldl_append]
      obtain ⟨hl1, hl2, hst⟩ := ih (Nat.le_of_succ_le hm)
      obtain ⟨hlen', hf⟩ := hstep m _ hm ⟨hl1, hl2⟩
      refine ⟨hlen'.1, hlen'.2, fun j hj k hk => ?_⟩
      by_cases hkm : k = m
      · subst hkm
        rw [if_pos (Nat.lt_succ_self k)]
        exact ((hf j hj).1 hk).trans (congrArg (g j) ((hst j hj k hk).trans (if_neg (Nat.lt_irrefl k))))
      · -- step `m` does not cover `j`: only one step does
        have hlt : k < m + 1 ↔ k < m := ⟨fun h => Nat.lt_of_le_of_ne (Nat.le_of_lt_succ h) hkm, Nat.lt_succ_of_lt⟩
        simp only [hlt]
        exact ((hf j hj).2 fun hc => hkm (hok.covers_unique hk hc)).trans (hst j hj k hk)
  obtain ⟨hl1, hl2, h⟩ := key ps.length (Nat.le_refl _)
  refine fields_ext ⟨hl1, hl2⟩ hxy fun j hj => ?_
  obtain ⟨k, hk, hc⟩ := hok.covered_by hj
  exact ((h j hj k hc).trans (if_pos hk)).trans (hg j hj).symm

theorem assign_fold (pred : Param → Bool) (ps : List Param) (useMove : Bool) (s t x : Elem)
    (hs : s.length = ps.length) (ht : t.length = ps.length) (hx : x.length = ps.length)
    (hxj : ∀ j, j < ps.length →
      x.getD j [] = if useMove = true ∧ predAt pred ps j = false then zeros (s.getD j []) else s.getD j []) :
    (List.range ps.length).foldl (fun st k => assignOne (runs pred false ps) useMove k st) (s, t) = (x, s) := by
  have hok := runs_ok pred false ps
  refine hok.fold_fields (fun j st => (if useMove = true ∧ predAt pred ps j = false then zeros st.1 else st.1, st.1))
    _ ?_ s t x s ⟨hs, ht⟩ ⟨hx, hs⟩ (fun j hj => Prod.ext (hxj j hj) rfl)
  intro k st hk ⟨h1, h2⟩
  unfold assignOne
  rw [runs_getD pred false ps k hk]
  cases hT : runsGo pred false ps 0 0 (fun _ => .skip) k with
  | skip => exact ⟨⟨h1, h2⟩, fun j _ => ⟨False.elim, fun _ => rfl⟩⟩
  | manual =>
    have hp := (hok.manual_only_not k hT).2
    have hk1 : k < st.1.length := h1.symm ▸ hk
    have hk2 : k < st.2.length := h2.symm ▸ hk
    refine ⟨⟨by rw [apply_ite List.length, List.length_set, ite_self]; exact h1, List.length_set.trans h2⟩,
      fun j _ => ⟨fun h => ?_, fun h => ?_⟩⟩
    · -- a MANUAL entry covers its own index only.  Field `k`: the target gets `st.1[k]`, the source is zeroed iff `useMove`
      -- (`getD_set`); that is `g k`, because field `k` does not match `pred` (`hp`)
      obtain rfl : k = j := (h : j = k).symm
      simp only [fields, zeros, hp, apply_ite (List.getD · k []), getD_set _ _ _ _ hk1, getD_set _ _ _ _ hk2, and_true, if_true]
    · -- any other field: `List.set k` does not touch it
      have hjk : j ≠ k := h
      simp only [fields, apply_ite (List.getD · j []), getD_set _ _ _ _ hk1, getD_set _ _ _ _ hk2, if_neg hjk, ite_self]
  | upto last =>
    obtain ⟨_, _, hpr⟩ := hok.run_wf k last hT
    refine ⟨⟨h1, (copyFields_length ..).trans h2⟩, fun j hj => ⟨fun h => ?_, fun h => ?_⟩⟩
    · have hc : k ≤ j ∧ j ≤ last := h
      simp only [fields, copyFields_getD _ _ _ _ _ (h2 ▸ hj), hc, and_self, hpr j hc.1 hc.2, Bool.true_eq_false, and_false, if_true,
        if_false]
    · have hc : ¬ (k ≤ j ∧ j ≤ last) := h
      simp only [fields, copyFields_getD _ _ _ _ _ (h2 ▸ hj), hc, if_false]

theorem movedAssignValues_getD (ps : List Param) (s : Elem) (hs : s.length = ps.length) (j : Nat) (hj : j < ps.length) :
    (movedAssignValues ps s).getD j [] = if predAt (·.ty.trivMoveAssign) ps j = true then s.getD j [] else zeros (s.getD j []) := by
  have hj' : j < s.length := hs ▸ hj
  have hz : (ps.zip s)[j]? = some (ps[j], s[j]) :=
    (List.getElem?_eq_getElem (List.length_zip ▸ Nat.lt_min.mpr ⟨hj, hj'⟩)).trans (congrArg some List.getElem_zip)
  rw [predAt_getElem _ ps j hj, ← List.getElem_eq_getD (h := hj') [], List.getD_eq_getElem?_getD, movedAssignValues, List.getElem?_map, hz]
  rfl

/-- **reference assignment in closed form**: the target receives the source's values; a copy leaves the source as it
    is, a move leaves the trivially move-assignable fields (they are copied by `memmove`) and moves out of the others -/
theorem refAssign_eq (ps : List Param) (useMove : Bool) (s t : Elem) (hs : s.length = ps.length) (ht : t.length = ps.length) :
    refAssign ps useMove s t = (if useMove then movedAssignValues ps s else s, s) := by
  unfold refAssign
  cases useMove
  · exact assign_fold _ ps false s t s hs ht hs (fun j _ => by simp)
  · refine assign_fold _ ps true s t (movedAssignValues ps s) hs ht (by simp [movedAssignValues, hs]) (fun j hj => ?_)
    rw [movedAssignValues_getD ps s hs j hj]
    cases predAt (·.ty.trivMoveAssign) ps j <;> simp

end Cntgs
