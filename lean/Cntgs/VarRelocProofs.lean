/-
Element-wise relocation on the offset-table locator (lists with a VaryingSize parameter, non-trivial value types).

`erase(first, last)` moves the tail element by element: each one is move-constructed at the aligned end of the element
relocated before it, then its source is destroyed.  All tail elements move forward by the same number of bytes, the slots of
the erased elements.  If no tail element is larger than that, source and target never overlap and the refinement of `erase`
holds exactly as on the memmove path (`Canon.eraseRange_gen`).  (If one is larger, the code constructs onto its own live source
objects: `C06.overlap_counter_witness`, known finding.)
-/
import Cntgs.VectorProofs
namespace Cntgs

/-- the condition under which the element-wise relocation of `erase` is sound on the offset-table locator: no element
    behind the erased range is larger than the (storage-aligned) bytes erased -/
def VOp.NoOverlap (ps : List Param) (es : List Elem) : VOp → Prop
  | .erase i => ∀ e ∈ es.drop (i + 1), esz ps e ≤ nextOff ps ((es.drop i).take 1)
  | .eraseRange i j => ∀ e ∈ es.drop j, esz ps e ≤ nextOff ps ((es.drop i).take (j - i))
  | _ => True

/-- histories in which every erase meets the no-overlap condition (an erase of an empty range in front of a tail does not:
    the condition is stated without `i < j`) -/
def ValidNoOverlap (ps : List Param) : List Elem → List VOp → Prop
  | _, [] => True
  | es, op :: ops => op.Pre ps es ∧ op.NoOverlap ps es ∧ ValidNoOverlap ps (op.spec es) ops

theorem VOp.Ok.of_noOverlap {ps : List Param} {w : Elem → Nat} {es : List Elem} {op : VOp} (hw : ∀ e, esz ps e ≤ w e)
    (hn : ∀ es, nextOff ps es = span w es) (free : Bool) (hpre : op.Pre ps es) (hno : op.NoOverlap ps es) : op.Ok ps w free es := by
  cases op with
  | emplace e => exact ⟨hpre.1, hpre.2, hw e⟩
  | pop => exact hpre
  | erase i => exact ⟨hpre, fun _ _ => Or.inr (by rw [Nat.add_sub_cancel_left, ← hn]; exact hno)⟩
  | eraseRange i j => exact ⟨hpre.1, hpre.2, fun _ _ => Or.inr (by rw [← hn]; exact hno)⟩
  | clear => trivial
  | reserve n b => trivial

/-- **every history, all value types, offset-table locator**, as long as no erase relocates an element over its own
    storage -/
theorem VarInv.history_all {v : Vec} {es : List Elem} (h : VarInv v es) (junk : Nat → Nat)
    (ops : List VOp) (hv : ValidNoOverlap v.ps es ops) :
    VarInv (ops.foldl (VOp.apply junk) v) (ops.foldl VOp.spec es) :=
  h.history_of junk (ValidNoOverlap v.ps)
    (fun _ _ _ hv => ⟨.of_noOverlap h.slot_ge (nextOff_eq_span_slot h.notFixed) _ hv.1 hv.2.1, hv.2.2⟩) ops hv

end Cntgs
