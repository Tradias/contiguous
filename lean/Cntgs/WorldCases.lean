/-
What each operation of the multi-vector world can result in: the operations of `World` (default construction apart) are
unfolded here into lemmas that name the possible resulting worlds (`World.*_cases`, or a `*_none` / `*_some` pair, with
`binary_trivial` for the degenerate calls of the binary operations).  Refinement (WorldProofs), ownership (OwnProofs), the
fault theorems (C17) and the value-semantics facts (C08, C09, C16, C19) are read off these and unfold no operation again; only
the commutation lemmas `merge_*` of ElemOwnProofs, which are equations between two calls of an operation, do.
-/
import Cntgs.AllocProofs
namespace Cntgs

theorem movedFrom_size (v : Vec) : v.movedFrom.size = 0 := by
  unfold Vec.size; split <;> rfl

theorem World.set_get (w : World) (k : Nat) (v : Option Vec) (i : Nat) : (w.set k v).vecs i = if i = k then v else w.vecs i := rfl

/-- the operation ended in `bad_alloc` having changed no vector, and in the ledger no block was added or removed -/
structure World.Failed (w w' : World) : Prop where
  vecs : w'.vecs = w.vecs
  acfg : w'.acfg = w.acfg
  threw : w'.threw = true
  same : w.heap.WF → w.heap.Same w'.heap  -- giving back what was allocated before the throw restores a well-formed ledger only
  sched : w.heap.fail ≠ none              -- a fault was scheduled (`C08.move_assign_unequal_transfers` reads it)

theorem World.Failed.unchanged {w w' : World} (f : w.Failed w') (hw : w.heap.WF) :
    w'.vecs = w.vecs ∧ w'.heap.live = w.heap.live ∧ w'.heap.errs = w.heap.errs :=
  ⟨f.vecs, (f.same hw).live, (f.same hw).errs⟩

theorem World.failed_pair {w : World} {h1 : Heap} {f : Bool} {units unit a cap : Nat}
    (hp : allocPair w.heap w.acfg f units unit a cap = (h1, none)) : w.Failed { w with heap := h1, threw := true } :=
  ⟨rfl, rfl, rfl, (allocPair_none hp).2, (allocPair_none hp).1⟩

theorem World.failed_table {w : World} {h1 : Heap} {f : Bool} {a cap : Nat}
    (hp : allocTable w.heap f a cap = (h1, none)) : w.Failed { w with heap := h1, threw := true } :=
  ⟨rfl, rfl, rfl, fun _ => (allocTable_none hp).1, fun hn => by cases hn.symm.trans (allocTable_none hp).2⟩

/-- `vd` after it received the contents of `vs` through a relocating locator constructor, with the offset table `t` -/
def Vec.received (vd vs : Vec) (t : Option Nat) (junk : Nat → Nat) : Vec :=
  { vd with tbl := t, cap := vs.cap, fs := vs.fs, mem := vs.mem, loc := vs.loc.relocated junk }

/-- what element-wise move assignment leaves in the source -/
def Vec.withMovedValues (vs : Vec) : Vec := { vs with mem := vs.mem.map (fun r => { r with e := Cntgs.movedValues vs.ps r.e }) }

/-- an element in which the fields of some parameters (those without `triv`) have been zeroed has the same shape; `movedValues`
    and `movedAssignValues` are of this form -/
theorem zeroed_shape (triv : Param → Bool) (ps : List Param) (e : Elem) (he : e.length = ps.length) :
    ((List.zip ps e).map (fun (p, vals) => if triv p then vals else vals.map (fun _ => 0))).length = ps.length ∧
    elemCounts ((List.zip ps e).map (fun (p, vals) => if triv p then vals else vals.map (fun _ => 0))) = elemCounts e := by
  refine ⟨by rw [List.length_map, List.length_zip, he, Nat.min_self], ?_⟩
  unfold elemCounts
  rw [List.map_map]
  have : (List.length ∘ fun (x : Param × List Nat) => if triv x.1 = true then x.2 else x.2.map (fun _ => 0)) =
      (List.length ∘ Prod.snd) := by
    funext x
    simp only [Function.comp]
    split
    · rfl
    · exact List.length_map _
  rw [this, ← List.map_map, List.map_snd_zip (Nat.le_of_eq he)]

theorem movedValues_shape (ps : List Param) (e : Elem) (he : e.length = ps.length) :
    (movedValues ps e).length = ps.length ∧ elemCounts (movedValues ps e) = elemCounts e :=
  zeroed_shape (·.ty.trivMoveCtor) ps e he

theorem World.new_cases (w : World) (k : Nat) (ps : List Param) (fs : List Nat) (cap bytes alloc : Nat) :
    w.Failed (w.new k ps fs cap bytes alloc) ∨
    ∃ h1 p t, allocPair w.heap w.acfg (Vec.new ps fs cap bytes w.junk).fixedLoc (Vec.new ps fs cap bytes w.junk).units
        (Vec.new ps fs cap bytes w.junk).S alloc cap = (h1, some (p, t)) ∧
      w.new k ps fs cap bytes alloc =
        { (w.set k (some { ((Vec.new ps fs cap bytes w.junk).setPtr p) with tbl := t })) with heap := h1, threw := false } := by
  unfold World.new
  simp only
  split
  · exact Or.inl (World.failed_pair ‹_›)
  · exact Or.inr ⟨_, _, _, ‹_›, rfl⟩

theorem World.reserve_cases (w : World) (k n b : Nat) :
    w.reserve k n b = w ∨ w.reserve k n b = { w with threw := false } ∨
    ∃ v, w.vecs k = some v ∧ v.cap < n ∧ (w.Failed (w.reserve k n b) ∨
      ∃ h1 p t, allocPair w.heap w.acfg v.fixedLoc (v.reserve n b w.junk).units v.S v.alloc n = (h1, some (p, t)) ∧
        w.reserve k n b = { (w.set k (some { ((v.reserve n b w.junk).setPtr ⟨p.blk, p.units, v.alloc⟩) with tbl := t })) with
          heap := v.ptr.dealloc h1 w.acfg v.S, threw := false }) := by
  unfold World.reserve
  cases hv : w.vecs k with
  | none => exact Or.inl rfl
  | some v =>
    dsimp only
    by_cases hc : v.cap < n
    · rw [if_pos hc]
      refine Or.inr (Or.inr ⟨v, rfl, hc, ?_⟩)
      rcases hp : allocPair w.heap w.acfg v.fixedLoc (v.reserve n b w.junk).units v.S v.alloc n with ⟨h1, _ | ⟨p, t⟩⟩
      · exact Or.inl (World.failed_pair hp)
      · exact Or.inr ⟨h1, p, t, rfl, rfl⟩
    · rw [if_neg hc]; exact Or.inr (Or.inl rfl)

theorem World.copy_cases (w : World) (s d : Nat) :
    (w.vecs s = none ∧ w.copy s d = w) ∨ w.Failed (w.copy s d) ∨
    ∃ vs h1 p t, w.vecs s = some vs ∧ allocPair w.heap w.acfg vs.fixedLoc vs.units vs.S (socc vs.alloc) vs.cap = (h1, some (p, t)) ∧
      w.copy s d = { (w.set d (some ((vs.setPtr p).received vs t w.junk))) with heap := h1, threw := false } := by
  unfold World.copy
  split
  · exact Or.inl ⟨‹_›, rfl⟩
  · split
    · exact Or.inr (Or.inl (World.failed_pair ‹_›))
    · exact Or.inr (Or.inr ⟨_, _, _, _, ‹_›, ‹_›, rfl⟩)

theorem World.move_none {w : World} {s : Nat} (d : Nat) (hs : w.vecs s = none) : w.move s d = w := by
  simp only [World.move, hs]

theorem World.move_some {w : World} {s : Nat} (d : Nat) {vs : Vec} (hs : w.vecs s = some vs) :
    w.move s d = { ((w.set d (some vs)).set s (some vs.movedFrom)) with threw := false } := by
  simp only [World.move, hs]

theorem World.destroy_none {w : World} {k : Nat} (hk : w.vecs k = none) : w.destroy k = w := by
  simp only [World.destroy, hk]

theorem World.destroy_some {w : World} {k : Nat} {v : Vec} (hk : w.vecs k = some v) :
    w.destroy k = { (w.set k none) with heap := v.ptr.dealloc w.heap w.acfg v.S, threw := false } := by
  simp only [World.destroy, hk]

theorem World.upd_none {w : World} {k : Nat} (f : Vec → Vec) (hk : w.vecs k = none) : w.upd k f = w := by
  simp only [World.upd, hk]

theorem World.upd_some {w : World} {k : Nat} (f : Vec → Vec) {v : Vec} (hk : w.vecs k = some v) :
    w.upd k f = { (w.set k (some (f v))) with threw := false } := by
  simp only [World.upd, hk]

theorem lookup_pair_cases {α : Type} (f : Nat → Option α) (a b : Nat) :
    (a = b ∨ f a = none ∨ f b = none) ∨ ∃ x y, a ≠ b ∧ f a = some x ∧ f b = some y := by
  by_cases hab : a = b
  · exact Or.inl (Or.inl hab)
  · cases ha : f a with
    | none => exact Or.inl (Or.inr (Or.inl rfl))
    | some x => cases hb : f b with
      | none => exact Or.inl (Or.inr (Or.inr rfl))
      | some y => exact Or.inr ⟨x, y, hab, rfl, rfl⟩

/-- `P` holds of the result of each of the three binary operations (the conclusion of `binary_trivial`, a field per operation) -/
structure World.Binary (P : World → Prop) (w : World) (a b : Nat) : Prop where
  copyAssign : P (w.copyAssign a b)
  moveAssign : P (w.moveAssign a b)
  swap : P (w.swap a b)

/-- a binary operation called on one vector twice, or on a name that holds none, does nothing (`idle`) or only clears the flag -/
theorem World.binary_trivial {P : World → Prop} {w : World} {a b : Nat} (h : a = b ∨ w.vecs a = none ∨ w.vecs b = none)
    (idle : P w) (self : P { w with threw := false }) : World.Binary P w a b := by
  by_cases hab : a = b
  · -- each operation is, by definition, `if a = b then { w with threw := false } else …`
    exact ⟨(congrArg P (if_pos hab)).mpr self, (congrArg P (if_pos hab)).mpr self, (congrArg P (if_pos hab)).mpr self⟩
  · -- past the self test each operation is `match w.vecs a, w.vecs b with | some _, some _ => … | _, _ => w`
    have hv : ∀ va vb, w.vecs a = some va → w.vecs b = some vb → False := fun va vb ha hb =>
      (h.resolve_left hab).elim (fun h => nomatch h.symm.trans ha) (fun h => nomatch h.symm.trans hb)
    refine ⟨?_, ?_, ?_⟩
    · unfold World.copyAssign
      rw [if_neg hab]
      split
      · exact (hv _ _ ‹_› ‹_›).elim
      · exact idle
    · unfold World.moveAssign
      rw [if_neg hab]
      split
      · exact (hv _ _ ‹_› ‹_›).elim
      · exact idle
    · unfold World.swap
      rw [if_neg hab]
      split
      · exact (hv _ _ ‹_› ‹_›).elim
      · exact idle

theorem World.swap_some {w : World} {a b : Nat} {va vb : Vec} (hab : a ≠ b) (ha : w.vecs a = some va) (hb : w.vecs b = some vb) :
    w.swap a b = { ((w.set a (some (vb.setPtr (Ptr.swap w.acfg va.ptr vb.ptr).1))).set b
      (some (va.setPtr (Ptr.swap w.acfg va.ptr vb.ptr).2))) with threw := false } := by
  simp only [World.swap, hab, if_false, ha, hb]

/-- copy assignment between two different vectors: the pointer assignment throws (the target is left cleared), the offset
    table throws (cleared, capacity 0, in the new block), or the target receives the source's contents -/
theorem World.copyAssign_cases {w : World} {s d : Nat} {vs vd : Vec} (hsd : s ≠ d) (hs : w.vecs s = some vs) (hd : w.vecs d = some vd) :
    (∃ h1 p1, vd.clear.ptr.copyAssign w.heap w.acfg vd.S vs.ptr = (h1, p1, false) ∧
      w.copyAssign s d = { (w.set d (some (vd.clear.setPtr p1))) with heap := h1, threw := true }) ∨
    (∃ h1 p1 h2, vd.clear.ptr.copyAssign w.heap w.acfg vd.S vs.ptr = (h1, p1, true) ∧
      allocTable h1 vd.fixedLoc p1.alloc vs.cap = (h2, none) ∧
      w.copyAssign s d = { (w.set d (some { (vd.clear.setPtr p1) with cap := 0 })) with heap := h2, threw := true }) ∨
    (∃ h1 p1 h2 t, vd.clear.ptr.copyAssign w.heap w.acfg vd.S vs.ptr = (h1, p1, true) ∧
      allocTable h1 vd.fixedLoc p1.alloc vs.cap = (h2, some t) ∧
      w.copyAssign s d = { (w.set d (some ((vd.clear.setPtr p1).received vs t w.junk))) with heap := h2, threw := false }) := by
  unfold World.copyAssign
  rw [if_neg hsd, hs, hd]
  dsimp only
  rcases hc : vd.clear.ptr.copyAssign w.heap w.acfg vd.S vs.ptr with ⟨h1, p1, _ | _⟩
  · exact Or.inl ⟨h1, p1, rfl, rfl⟩
  · dsimp only
    rcases ht : allocTable h1 vd.fixedLoc p1.alloc vs.cap with ⟨h2, _ | t⟩
    · exact Or.inr (Or.inl ⟨h1, p1, h2, rfl, ht, rfl⟩)
    · exact Or.inr (Or.inr ⟨h1, p1, h2, t, rfl, ht, rfl⟩)

/-- move assignment between two different vectors: the block is taken over (allocators equal or propagating); or, element-wise,
    the target receives the contents around a pointer `p` with its own allocator: its old pointer, with a new offset table, or a
    new block and table when the old block is too small.  Either allocation may throw. -/
theorem World.moveAssign_cases {w : World} {s d : Nat} {vs vd : Vec} (hsd : s ≠ d) (hs : w.vecs s = some vs) (hd : w.vecs d = some vd) :
    ((w.acfg.ae || w.acfg.pocma || w.acfg.eq vd.alloc vs.alloc) = true ∧
      w.moveAssign s d = { ((w.set d (some { (vs.setPtr ⟨vs.blk, vs.units, if w.acfg.pocma then vs.alloc else vd.alloc⟩) with
        poison := vd.poison || vs.poison })).set s (some vs.movedFrom)) with heap := vd.ptr.dealloc w.heap w.acfg vd.S, threw := false }) ∨
    ((w.acfg.ae || w.acfg.pocma || w.acfg.eq vd.alloc vs.alloc) = false ∧
      (w.Failed (w.moveAssign s d) ∨
      ∃ h' p t, p.alloc = vd.alloc ∧
        ((p = vd.ptr ∧ allocTable w.heap vd.fixedLoc vd.alloc vs.cap = (h', some t)) ∨
         ∃ h2 np, allocPair w.heap w.acfg vd.fixedLoc vs.bytes vd.S vd.alloc vs.cap = (h2, some (np, t)) ∧
           p = ⟨np.blk, np.units, vd.alloc⟩ ∧ h' = vd.ptr.dealloc h2 w.acfg vd.S) ∧
        w.moveAssign s d = { ((w.set d (some ((vd.setPtr p).received vs t w.junk))).set s (some vs.withMovedValues)) with
          heap := h', threw := false })) := by
  unfold World.moveAssign
  rw [if_neg hsd, hs, hd]
  dsimp only
  cases hc : (w.acfg.ae || w.acfg.pocma || w.acfg.eq vd.alloc vs.alloc) with
  | true => exact Or.inl ⟨rfl, rfl⟩
  | false =>
    -- POCMA is off, so `Ptr.moveAssign` leaves the target its own allocator
    have hpm := (Bool.or_eq_false_iff.mp (Bool.or_eq_false_iff.mp hc).1).2
    refine Or.inr ⟨rfl, ?_⟩
    rw [if_neg Bool.false_ne_true]
    by_cases hb : vs.bytes > vd.bytes
    · rw [if_pos hb]
      rcases hp : allocPair w.heap w.acfg vd.fixedLoc vs.bytes vd.S vd.alloc vs.cap with ⟨h2, _ | ⟨np, t⟩⟩
      · exact Or.inl (World.failed_pair hp)
      · refine Or.inr ⟨_, _, t, rfl, Or.inr ⟨h2, np, rfl, rfl, rfl⟩, ?_⟩
        simp only [Ptr.moveAssign, hpm, Bool.false_eq_true, if_false]
        rfl
    · rw [if_neg hb]
      rcases hp : allocTable w.heap vd.fixedLoc vd.alloc vs.cap with ⟨h2, _ | t⟩
      · exact Or.inl (World.failed_table hp)
      · exact Or.inr ⟨h2, vd.ptr, t, rfl, Or.inl ⟨rfl, rfl⟩, rfl⟩

end Cntgs
