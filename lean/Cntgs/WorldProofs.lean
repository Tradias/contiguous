/-
Refinement of the multi-vector model to the simplest possible specification: a finite map from vector names to plain
sequences of tuples (or "moved-from").  Every operation of the public interface on several vectors — construction,
in-place operations, copy/move construction, copy/move assignment, swap, destruction — commutes with the abstraction, for
every history.  C09 (value semantics) and the history part of C17 are corollaries.

The operations `WOp` of this file are not the `OOp` of OwnProofs: all vectors share one parameter list (`WOp.new` takes none),
reserve is the in-place `Vec.reserve` under `.vop` (it never meets the ledger; the allocating `World.reserve` is `OOp.reserve`),
and for copy and move construction `WOp.Pre` does not ask for a free target name where `OOp.Pre` must.  No lemma translates between the two.
-/
import Cntgs.FixProofs
import Cntgs.VarRelocProofs
import Cntgs.WorldCases
namespace Cntgs

/-- the per-vector invariant, whichever locator the parameter list selects -/
def Inv1 (v : Vec) (es : List Elem) : Prop := VarInv v es ∨ FixInv v es

theorem inv1_iff {v : Vec} {es : List Elem} : Inv1 v es ↔ Canon v es :=
  ⟨fun h => h.elim VarInv.canon FixInv.canon, fun h => by
    cases hf : v.fixedLoc with
    | false => exact Or.inl (h.toVar hf)
    | true => exact Or.inr (h.toFix hf)⟩

/-- a relocating locator constructor (copy, assignment) carries the live table slots over; the others are fresh junk -/
theorem relocated_obs {v w : Vec} (junk : Nat → Nat) (hps : w.ps = v.ps) (hloc : w.loc = v.loc.relocated junk) :
    w.loc.stride = v.loc.stride ∧ w.size = v.size ∧ w.dataEnd = v.dataEnd ∧ ∀ k, k < v.size → w.addr k = v.addr k := by
  unfold Vec.size Vec.dataEnd Vec.addr
  rw [fixedLoc_congr hps, hloc]
  refine ⟨rfl, rfl, rfl, fun k hk => ?_⟩
  cases hf : v.fixedLoc with
  | true => rfl
  | false => rw [hf] at hk; exact if_pos hk

theorem Inv1.relocated {v w : Vec} {es : List Elem} (h : Inv1 v es) (junk : Nat → Nat) (hps : w.ps = v.ps)
    (hmem : w.mem = v.mem) (hloc : w.loc = v.loc.relocated junk) (hpo : w.poison = false) : Inv1 w es := by
  have h := inv1_iff.mp h
  obtain ⟨hst, hsize, hend, haddr⟩ := relocated_obs junk hps hloc
  exact inv1_iff.mpr (h.of_obs hps hst hsize haddr hend hmem (hpo.trans h.clean.symm))

theorem Inv1.congr {v w : Vec} {es : List Elem} (h : Inv1 v es) (hps : w.ps = v.ps) (hloc : w.loc = v.loc)
    (hmem : w.mem = v.mem) (hpo : w.poison = v.poison) : Inv1 w es := by
  have hf := fixedLoc_congr hps
  refine inv1_iff.mpr ((inv1_iff.mp h).of_obs hps (by rw [hloc]) ?_ (fun k _ => ?_) ?_ hmem hpo)
  · unfold Vec.size; rw [hf, hloc]
  · unfold Vec.addr; rw [hf, hloc]
  · unfold Vec.dataEnd; rw [hf, hloc]

/-- the abstract state of one vector -/
inductive AVec
  | live (es : List Elem)
  | moved

/-- `v` represents the abstract vector `a`.  Of a moved-from vector the invariant keeps what makes it an empty vector again
    (`moved_is_empty`): a stride that is a multiple of the storage alignment, resp. an end marker of zero -/
def VInv (ps : List Param) (v : Vec) : AVec → Prop
  | .live es => v.ps = ps ∧ Inv1 v es
  | .moved => v.ps = ps ∧ v.mem = [] ∧ v.size = 0 ∧ v.poison = false ∧ (v.fixedLoc = true → storageAl v.ps ∣ v.loc.stride) ∧
      (v.fixedLoc = false → v.loc.last = 0)

theorem VInv.ps_eq {ps : List Param} {v : Vec} {a : AVec} (h : VInv ps v a) : v.ps = ps := by
  cases a <;> exact h.1

theorem VInv.clean {ps : List Param} {v : Vec} {a : AVec} (h : VInv ps v a) : v.poison = false := by
  cases a with
  | live es => exact (inv1_iff.mp h.2).clean
  | moved => obtain ⟨_, _, _, hpo, _⟩ := h; exact hpo

/-- the world represents the abstract map `A` -/
def WInv (ps : List Param) (w : World) (A : Nat → Option AVec) : Prop :=
  ∀ k, match w.vecs k, A k with
    | some v, some a => VInv ps v a
    | none, none => True
    | _, _ => False

def aset (A : Nat → Option AVec) (k : Nat) (a : Option AVec) : Nat → Option AVec := fun i => if i = k then a else A i

theorem WInv.of_vecs {ps : List Param} {w w' : World} {A : Nat → Option AVec} (h : WInv ps w A) (hv : w'.vecs = w.vecs) :
    WInv ps w' A := by
  intro k; rw [hv]; exact h k

theorem WInv.set {ps : List Param} {w w' : World} {A : Nat → Option AVec} (h : WInv ps w A) (k : Nat) {v : Vec} {a : AVec}
    (ha : VInv ps v a) (hv : w'.vecs = (w.set k (some v)).vecs) : WInv ps w' (aset A k (some a)) := by
  intro i
  rw [hv]
  by_cases hi : i = k
  · simp only [World.set, aset, hi, if_true]; exact ha
  · simp only [World.set, aset, hi, if_false]; exact h i

theorem WInv.unbind {ps : List Param} {w w' : World} {A : Nat → Option AVec} (h : WInv ps w A) (k : Nat)
    (hv : ∀ i, i ≠ k → w'.vecs i = w.vecs i) (hk : w'.vecs k = none) : WInv ps w' (aset A k none) := by
  intro i
  by_cases hi : i = k
  · simp only [aset, hi, if_true, hk]
  · simp only [aset, hi, if_false, hv i hi]; exact h i

theorem WInv.failed {ps : List Param} {w w' : World} {A : Nat → Option AVec} (h : WInv ps w A) (f : w.Failed w')
    (B : Nat → Option AVec) : WInv ps w' (if w'.threw then A else B) := by
  rw [f.threw]; exact h.of_vecs f.vecs

theorem WInv.bound {ps : List Param} {w : World} {A : Nat → Option AVec} (h : WInv ps w A) {k : Nat} {a : AVec} (hA : A k = some a) :
    ∃ v, w.vecs k = some v ∧ VInv ps v a := by
  have hk := h k
  rw [hA] at hk
  -- `hk` is the `match` of `WInv` at `w.vecs k, some a`: `VInv ps v a` at `some v`, `False` at `none`
  cases hv : w.vecs k with
  | some v => rw [hv] at hk; exact ⟨v, rfl, hk⟩
  | none => rw [hv] at hk; exact False.elim hk

/-- the same for a name of which the precondition says only that it is bound -/
theorem WInv.bound_of_ne_none {ps : List Param} {w : World} {A : Nat → Option AVec} (h : WInv ps w A) {k : Nat} (hA : A k ≠ none) :
    ∃ a v, A k = some a ∧ w.vecs k = some v ∧ VInv ps v a := by
  obtain ⟨a, ha⟩ := Option.ne_none_iff_exists'.mp hA
  obtain ⟨v, hv, hva⟩ := h.bound ha
  exact ⟨a, v, ha, hv, hva⟩

theorem VInv.congr {ps : List Param} {v u : Vec} {a : AVec} (h : VInv ps v a) (hps : u.ps = v.ps) (hloc : u.loc = v.loc)
    (hmem : u.mem = v.mem) (hpo : u.poison = v.poison) : VInv ps u a := by
  cases a with
  | live es => exact ⟨hps.trans h.1, h.2.congr hps hloc hmem hpo⟩
  | moved =>
    obtain ⟨hps', hmem', hsz, hpo', hst, hlast⟩ := h
    have hf := fixedLoc_congr hps
    refine ⟨hps.trans hps', hmem.trans hmem', ?size, hpo.trans hpo', ?stride, ?last⟩
    case size => unfold Vec.size; rw [hf, hloc]; exact hsz
    case stride => rw [hf, hps, hloc]; exact hst
    case last => rw [hf, hloc]; exact hlast

theorem VInv.setPtr {ps : List Param} {v : Vec} {a : AVec} (h : VInv ps v a) (p : Ptr) : VInv ps (v.setPtr p) a :=
  h.congr rfl rfl rfl rfl

theorem VInv.received {ps : List Param} {vs vd : Vec} {es : List Elem} {y : AVec} (hs : VInv ps vs (.live es)) (hd : VInv ps vd y)
    (t : Option Nat) (junk : Nat → Nat) : VInv ps (vd.received vs t junk) (.live es) :=
  ⟨hd.ps_eq, hs.2.relocated junk (hd.ps_eq.trans hs.1.symm) rfl rfl hd.clean⟩

theorem movedFrom_inv {ps : List Param} {v : Vec} {a : AVec} (h : VInv ps v a) : VInv ps v.movedFrom .moved := by
  refine ⟨h.ps_eq, rfl, movedFrom_size v, h.clean, fun (hf : v.fixedLoc = true) => ?_, fun _ => rfl⟩
  show storageAl v.ps ∣ v.loc.stride
  cases a with
  | live es => exact ((inv1_iff.mp h.2).toFix hf).stride_dvd
  | moved => obtain ⟨_, _, _, _, hst, _⟩ := h; exact hst hf

/-- **a moved-from vector is an empty vector**: it represents the empty sequence like any vector that never held an element
    (no capacity, no block), so every operation of the interface applies to it as to any other empty vector -/
theorem moved_is_empty {ps : List Param} (hl : ListOK ps) {v : Vec} (h : VInv ps v .moved) : VInv ps v (.live []) := by
  obtain ⟨hps, hmem, hsz, hpo, hst, hlast⟩ := h
  refine ⟨hps, inv1_iff.mpr (Canon.empty (hps ▸ hl) ?slot_dvd hsz ?end_zero hmem hpo)⟩
  case slot_dvd =>
    intro e
    cases hf : v.fixedLoc with
    | false => rw [slot_of_var hf]; exact alignUp_dvd _ _
    | true => rw [slot_of_fixed hf]; exact hst hf
  case end_zero =>
    show v.dataEnd = 0
    cases hf : v.fixedLoc with
    | false => simpa [Vec.dataEnd, hf] using hlast hf
    | true =>
      have hc : v.loc.count = 0 := by simpa [Vec.size, hf] using hsz
      simp [Vec.dataEnd, hf, hc]

/-- … hence in the abstract map a moved-from name may be read as the empty sequence: every theorem about histories that asks
    for a live source or target applies to moved-from vectors too -/
theorem WInv.moved_as_empty {ps : List Param} (hl : ListOK ps) {w : World} {A : Nat → Option AVec} (h : WInv ps w A) (k : Nat)
    (hk : A k = some .moved) : WInv ps w (aset A k (some (.live []))) := by
  obtain ⟨v, hv, hm⟩ := h.bound hk
  refine h.set k (moved_is_empty hl hm) (funext fun i => ?_)
  by_cases hi : i = k
  · rw [hi, hv]; exact (if_pos rfl).symm
  · exact (if_neg hi).symm

theorem clear_inv {ps : List Param} (hl : ListOK ps) {v : Vec} {a : AVec} (h : VInv ps v a) : VInv ps v.clear (.live []) := by
  have hc : ∀ es, Inv1 v es → Inv1 v.clear [] := fun es h => inv1_iff.mpr ((inv1_iff.mp h).step (fun _ => 0) .clear trivial)
  cases a with
  | live es => exact ⟨h.1, hc es h.2⟩
  | moved => exact ⟨h.1, hc [] (moved_is_empty hl h).2⟩

/-- element-wise move construction leaves the values of trivially move-constructible types in place -/
theorem movedValues_id (ps : List Param) (htriv : ∀ p ∈ ps, p.ty.trivMoveCtor = true) :
    ∀ (e : Elem), e.length ≤ ps.length → movedValues ps e = e := by
  intro e he
  unfold movedValues
  rw [List.map_congr_left (g := Prod.snd) fun x hx => if_pos (htriv x.1 (List.of_mem_zip hx).1)]
  exact List.map_snd_zip he

theorem Inv1.mem_records {v : Vec} {es : List Elem} (h : Inv1 v es) : ∀ r ∈ v.mem, r.e ∈ es := by
  intro r hr
  obtain ⟨k, hk, rfl⟩ := ((inv1_iff.mp h).mem_eq r).mp hr
  exact getD_mem es k hk

/-- a vector whose stored values are replaced by values of the same field sizes represents the mapped sequence, in the same
    layout -/
theorem Inv1.map_values {v : Vec} {es : List Elem} (h : Inv1 v es) (f : Elem → Elem)
    (hf : ∀ e ∈ es, elemCounts (f e) = elemCounts e) :
    Inv1 { v with mem := v.mem.map (fun r => { r with e := f r.e }) } (es.map f) :=
  inv1_iff.mpr ((inv1_iff.mp h).map_values f hf)

theorem VInv.withMovedValues {ps : List Param} {vs : Vec} {es : List Elem} (h : VInv ps vs (.live es)) :
    VInv ps vs.withMovedValues (.live (es.map (Cntgs.movedValues ps))) :=
  ⟨h.1, h.1 ▸ h.2.map_values (Cntgs.movedValues vs.ps) (fun e he => (movedValues_shape vs.ps e (eok_length ((inv1_iff.mp h.2).eok e he).1)).2)⟩

/-- does move assignment `d = std::move(s)` take over the block (allocators equal or propagating)? -/
def steals (w : World) (s d : Nat) : Bool :=
  match w.vecs s, w.vecs d with
  | some vs, some vd => w.acfg.ae || w.acfg.pocma || w.acfg.eq vd.alloc vs.alloc
  | _, _ => false

inductive WOp
  | new (k : Nat) (fs : List Nat) (cap bytes alloc : Nat)
  | vop (k : Nat) (op : VOp)
  | copy (s d : Nat)
  | move (s d : Nat)
  | copyAssign (s d : Nat)
  | moveAssign (s d : Nat)
  | swap (a b : Nat)
  | destroy (k : Nat)

def WOp.apply (ps : List Param) (w : World) : WOp → World
  | .new k fs cap bytes alloc => w.new k ps fs cap bytes alloc
  | .vop k op => w.upd k (op.apply w.junk)
  | .copy s d => w.copy s d
  | .move s d => w.move s d
  | .copyAssign s d => w.copyAssign s d
  | .moveAssign s d => w.moveAssign s d
  | .swap a b => w.swap a b
  | .destroy k => w.destroy k

/-- the same operation on the abstract map of plain sequences -/
def WOp.aspec (ps : List Param) (w : World) (A : Nat → Option AVec) : WOp → (Nat → Option AVec)
  | .new k _ _ _ _ => aset A k (some (.live []))
  | .vop k op => match A k with | some (.live es) => aset A k (some (.live (op.spec es))) | _ => A
  | .copy s d => match A s with | some a => aset A d (some a) | none => A
  | .move s d => match A s with | some a => aset (aset A d (some a)) s (some .moved) | none => A
  | .copyAssign s d => if s = d then A else match A s with | some a => aset A d (some a) | none => A
  | .moveAssign s d =>
    if s = d then A else
    match A s with
    | some (.live es) =>
      if steals w s d then aset (aset A d (some (.live es))) s (some .moved)
      else aset (aset A d (some (.live es))) s (some (.live (es.map (movedValues ps))))   -- element-wise: moved-from values stay behind
    | _ => A
  | .swap a b => if a = b then A else match A a, A b with | some x, some y => aset (aset A a (some y)) b (some x) | _, _ => A
  | .destroy k => aset A k none

/-- what the interface demands of its caller; beyond the documented preconditions: enough fixed sizes for `new` (`FixInv.new`)
    and, for erases of non-trivial value types on the offset table, `NoOverlap` (where it fails the code is wrong: KF-C06) -/
def WOp.Pre (ps : List Param) (w : World) (A : Nat → Option AVec) : WOp → Prop
  | .new k fs _ _ _ => A k = none ∧ (isFixedOrPlain ps = true → ps.length ≤ fs.length)
  | .vop k op => ∃ es v, A k = some (.live es) ∧ w.vecs k = some v ∧
      (v.fixedLoc = true → op.PreFix ps v.loc.stride es) ∧
      (v.fixedLoc = false → op.Pre ps es ∧ (v.trivialReloc = true ∨ op.NoOverlap ps es))
  | .copy s d => (∃ es, A s = some (.live es)) ∧ s ≠ d
  | .move s d => A s ≠ none ∧ s ≠ d
  | .copyAssign s d => s = d ∨ ((∃ es, A s = some (.live es)) ∧ A d ≠ none)
  | .moveAssign s d => s = d ∨ ((∃ es, A s = some (.live es)) ∧ A d ≠ none)
  | .swap a b => a = b ∨ (A a ≠ none ∧ A b ≠ none)
  | .destroy _ => True

/-- the abstract map after a history (it follows the world only to know which branch move assignment took) -/
def arun (ps : List Param) : World → (Nat → Option AVec) → List WOp → (Nat → Option AVec)
  | _, A, [] => A
  | w, A, op :: ops => arun ps (op.apply ps w) (op.aspec ps w A) ops

/-- histories that respect the preconditions and in which no allocation fails (failures: C17) -/
def WValid (ps : List Param) : World → (Nat → Option AVec) → List WOp → Prop
  | _, _, [] => True
  | w, A, op :: ops => op.Pre ps w A ∧ (op.apply ps w).threw = false ∧ WValid ps (op.apply ps w) (op.aspec ps w A) ops

/-- the abstract map after an operation that ended in `bad_alloc`: unchanged, except that a failed copy assignment has
    emptied its target (basic guarantee) -/
def WOp.aspecFail (A : Nat → Option AVec) : WOp → (Nat → Option AVec)
  | .copyAssign s d => if s = d then A else aset A d (some (.live []))
  | _ => A

theorem new_refines {ps : List Param} {w : World} {A : Nat → Option AVec} (h : WInv ps w A) (k : Nat) (fs : List Nat)
    (cap bytes alloc : Nat) (hl : ListOK ps) (hlf : isFixedOrPlain ps = true → ps.length ≤ fs.length) :
    WInv ps (w.new k ps fs cap bytes alloc) (if (w.new k ps fs cap bytes alloc).threw then A else aset A k (some (.live []))) := by
  rcases w.new_cases k ps fs cap bytes alloc with hf | ⟨h1, p, t, _, e⟩
  · exact h.failed hf _
  · rw [e]
    have hinv : Inv1 (Vec.new ps fs cap bytes w.junk) [] := by
      cases hf : isFixedOrPlain ps with
      | false => exact Or.inl (VarInv.new ps fs cap bytes w.junk hl hf)
      | true => exact Or.inr (FixInv.new ps fs cap bytes w.junk hl hf (hlf hf))
    exact h.set k (v := { ((Vec.new ps fs cap bytes w.junk).setPtr p) with tbl := t }) ⟨rfl, hinv.congr rfl rfl rfl rfl⟩ rfl

/-- any in-place operation that keeps the per-vector invariant -/
theorem upd_refines (ps : List Param) (w : World) (A : Nat → Option AVec) (h : WInv ps w A) (k : Nat) (f : Vec → Vec)
    (es es' : List Elem) (hA : A k = some (.live es))
    (hf : ∀ v, v.ps = ps → Inv1 v es → Inv1 (f v) es' ∧ (f v).ps = ps) :
    WInv ps (w.upd k f) (aset A k (some (.live es'))) := by
  obtain ⟨v, hv, hva⟩ := h.bound hA
  rw [World.upd_some f hv]
  obtain ⟨h1, h2⟩ := hf v hva.1 hva.2
  exact h.set k ⟨h2, h1⟩ rfl

theorem vop_refines {ps : List Param} {w : World} {A : Nat → Option AVec} (h : WInv ps w A) (k : Nat) (op : VOp)
    {es : List Elem} {v : Vec} (hA : A k = some (.live es)) (hv : w.vecs k = some v)
    (hfix : v.fixedLoc = true → op.PreFix ps v.loc.stride es)
    (hvar : v.fixedLoc = false → op.Pre ps es ∧ (v.trivialReloc = true ∨ op.NoOverlap ps es)) :
    WInv ps (w.upd k (op.apply w.junk)) (if (w.upd k (op.apply w.junk)).threw then A else aset A k (some (.live (op.spec es)))) := by
  obtain ⟨v', hv', hps, hinv⟩ := h.bound hA
  cases hv.symm.trans hv'
  rw [World.upd_some _ hv]
  refine h.set k ⟨(apply_ps_stride w.junk v op).1.trans hps, inv1_iff.mpr ((inv1_iff.mp hinv).step w.junk op ?_)⟩ rfl
  subst hps
  cases hf : v.fixedLoc with
  | true => exact hf ▸ .of_preFix_vec hf (hfix hf)
  | false =>
    have hw := ((inv1_iff.mp hinv).toVar hf).slot_ge
    obtain ⟨h1, h2 | h2⟩ := hvar hf
    · rw [h2]; exact .of_pre hw h1
    · exact .of_noOverlap hw (nextOff_eq_span_slot hf) _ h1 h2

theorem copy_refines {ps : List Param} {w : World} {A : Nat → Option AVec} (h : WInv ps w A) (s d : Nat) (es : List Elem)
    (hA : A s = some (.live es)) :
    WInv ps (w.copy s d) (if (w.copy s d).threw then A else aset A d (some (.live es))) := by
  obtain ⟨vs, hs, hva⟩ := h.bound hA
  rcases w.copy_cases s d with ⟨hn, _⟩ | hf | ⟨vs', h1, p, t, hs', _, e⟩
  · cases hs.symm.trans hn
  · exact h.failed hf _
  · cases hs.symm.trans hs'
    rw [e]
    exact h.set d (hva.received (hva.setPtr p) t w.junk) rfl

theorem move_refines {ps : List Param} {w : World} {A : Nat → Option AVec} (h : WInv ps w A) (s d : Nat) (a : AVec)
    (hA : A s = some a) :
    WInv ps (w.move s d) (if (w.move s d).threw then A else aset (aset A d (some a)) s (some .moved)) := by
  obtain ⟨vs, hs, hva⟩ := h.bound hA
  rw [World.move_some d hs]
  exact (h.set d hva rfl).set s (movedFrom_inv hva) rfl

theorem destroy_refines {ps : List Param} {w : World} {A : Nat → Option AVec} (h : WInv ps w A) (k : Nat) :
    WInv ps (w.destroy k) (if (w.destroy k).threw then A else aset A k none) := by
  cases hv : w.vecs k with
  | none =>
    rw [World.destroy_none hv]
    split
    · exact h
    · exact h.unbind k (fun _ _ => rfl) hv
  | some v => rw [World.destroy_some hv]; exact h.unbind k (fun _ hi => if_neg hi) (if_pos rfl)

theorem WInv.self_op {ps : List Param} {w : World} {A : Nat → Option AVec} (h : WInv ps w A) (k : Nat) :
    World.Binary (fun r => WInv ps r A) w k k :=
  World.binary_trivial (.inl rfl) h (h.of_vecs rfl)

theorem swap_refines {ps : List Param} {w : World} {A : Nat → Option AVec} (h : WInv ps w A) (a b : Nat)
    (hpre : (WOp.swap a b).Pre ps w A) :
    WInv ps (w.swap a b) (if (w.swap a b).threw then A else (WOp.swap a b).aspec ps w A) := by
  by_cases hab : a = b
  · subst hab
    simp only [WOp.aspec, if_true, ite_self]
    exact (h.self_op a).swap
  · obtain ⟨hAa, hAb⟩ := hpre.resolve_left hab
    obtain ⟨x, va, hAa, hva, hvx⟩ := h.bound_of_ne_none hAa
    obtain ⟨y, vb, hAb, hvb, hvy⟩ := h.bound_of_ne_none hAb
    simp only [WOp.aspec, if_neg hab, hAa, hAb]
    rw [World.swap_some hab hva hvb]
    exact (h.set a (hvy.setPtr _) rfl).set b (hvx.setPtr _) rfl

theorem copyAssign_refines {ps : List Param} (hl : ListOK ps) {w : World} {A : Nat → Option AVec} (h : WInv ps w A) (s d : Nat)
    (hpre : (WOp.copyAssign s d).Pre ps w A) :
    WInv ps (w.copyAssign s d)
      (if (w.copyAssign s d).threw then (WOp.copyAssign s d).aspecFail A else (WOp.copyAssign s d).aspec ps w A) := by
  by_cases hsd : s = d
  · subst hsd
    simp only [WOp.aspec, WOp.aspecFail, if_true, ite_self]
    exact (h.self_op s).copyAssign
  · obtain ⟨⟨es, hAs⟩, hAd⟩ := hpre.resolve_left hsd
    obtain ⟨vs, hs, hvx⟩ := h.bound hAs
    obtain ⟨y, vd, _, hd, hvy⟩ := h.bound_of_ne_none hAd
    -- the target is cleared before anything can throw; what `clear` computes does not matter from here on
    have hclr := clear_inv hl hvy
    simp only [WOp.aspec, WOp.aspecFail, if_neg hsd, hAs]
    rcases World.copyAssign_cases hsd hs hd with ⟨h1, p1, _, e⟩ | ⟨h1, p1, h2, _, _, e⟩ | ⟨h1, p1, h2, t, _, _, e⟩ <;>
      rw [e] <;> generalize vd.clear = c at hclr ⊢
    · -- the pointer assignment threw: the target stays cleared, around the pointer that came back
      exact h.set d (hclr.setPtr p1) rfl
    · -- the offset table threw: the same, with capacity 0 (a field the invariant does not read)
      exact h.set d (v := { (c.setPtr p1) with cap := 0 }) (hclr.congr rfl rfl rfl rfl) rfl
    · -- no throw: the cleared target receives the source's contents
      exact h.set d (hvx.received (hclr.setPtr p1) t w.junk) rfl

/-- move assignment: the target takes the source's contents.  Stealing branch (allocators equal or propagating): the
    source is moved-from.  Element-wise branch (unequal non-propagating allocators), **every value type**: the source
    keeps as many elements of the same field sizes, holding moved-from values (its own values for trivially
    move-constructible types).  When the element-wise branch ends in `bad_alloc` nothing has changed. -/
theorem moveAssign_refines {ps : List Param} {w : World} {A : Nat → Option AVec} (h : WInv ps w A) (s d : Nat)
    (hpre : (WOp.moveAssign s d).Pre ps w A) :
    WInv ps (w.moveAssign s d) (if (w.moveAssign s d).threw then A else (WOp.moveAssign s d).aspec ps w A) := by
  by_cases hsd : s = d
  · subst hsd
    simp only [WOp.aspec, if_true, ite_self]
    exact (h.self_op s).moveAssign
  · obtain ⟨⟨es, hAs⟩, hAd⟩ := hpre.resolve_left hsd
    obtain ⟨vs, hs, hvx⟩ := h.bound hAs
    obtain ⟨y, vd, _, hd, hvy⟩ := h.bound_of_ne_none hAd
    simp only [WOp.aspec, if_neg hsd, hAs, steals, hs, hd]
    rcases World.moveAssign_cases hsd hs hd with ⟨hc, e⟩ | ⟨hc, hf | ⟨h', p, t, _, _, e⟩⟩
    · -- stealing: the target is the source's vector (pointer and poison flag aside), the source is moved-from
      rw [e, hc]
      have hpo : (vd.poison || vs.poison) = vs.poison := by rw [hvy.clean, hvx.clean]; rfl
      exact (h.set d (v := { (vs.setPtr _) with poison := vd.poison || vs.poison }) (hvx.congr rfl rfl rfl hpo) rfl).set s
        (movedFrom_inv hvx) rfl
    · -- element-wise, an allocation threw
      exact h.failed hf _
    · -- element-wise: the target receives the contents, the source keeps moved-from values
      rw [e, hc]; exact (h.set d (hvx.received (hvy.setPtr p) t w.junk) rfl).set s hvx.withMovedValues rfl

/-- **one step, whether or not it ends in `bad_alloc`**: whatever operation of the interface is applied to whichever vectors, the
    result represents what the same operation yields on the map of plain sequences, and what `aspecFail` says when it threw -/
theorem step_refines_any (ps : List Param) (hl : ListOK ps) (w : World) (A : Nat → Option AVec) (h : WInv ps w A) (op : WOp)
    (hpre : op.Pre ps w A) :
    WInv ps (op.apply ps w) (if (op.apply ps w).threw then op.aspecFail A else op.aspec ps w A) := by
  cases op with
  | new k fs cap bytes alloc => exact new_refines h k fs cap bytes alloc hl hpre.2
  | vop k op =>
    obtain ⟨es, v, hA, hv, hfix, hvar⟩ := hpre
    simp only [WOp.apply, WOp.aspec, WOp.aspecFail, hA]
    exact vop_refines h k op hA hv hfix hvar
  | copy s d =>
    obtain ⟨⟨es, hA⟩, _⟩ := hpre
    simp only [WOp.apply, WOp.aspec, WOp.aspecFail, hA]
    exact copy_refines h s d es hA
  | move s d =>
    obtain ⟨a, ha⟩ := Option.ne_none_iff_exists'.mp hpre.1
    simp only [WOp.apply, WOp.aspec, WOp.aspecFail, ha]
    exact move_refines h s d a ha
  | copyAssign s d => exact copyAssign_refines hl h s d hpre
  | moveAssign s d => exact moveAssign_refines h s d hpre
  | swap a b => exact swap_refines h a b hpre
  | destroy k => exact destroy_refines h k

/-- **one step**: whatever operation of the interface is applied to whichever vectors, the result represents what the same
    operation yields on the map of plain sequences -/
theorem step_refines (ps : List Param) (hl : ListOK ps) (w : World) (A : Nat → Option AVec) (h : WInv ps w A) (op : WOp)
    (hpre : op.Pre ps w A) (hok : (op.apply ps w).threw = false) : WInv ps (op.apply ps w) (op.aspec ps w A) := by
  simpa only [hok, Bool.false_eq_true, if_false] using step_refines_any ps hl w A h op hpre

/-- **every history over any number of vectors**: construction, in-place operations, copy/move construction, copy/move
    assignment, swap and destruction, in any interleaving and of any length, keep every vector a faithful representation
    of the plain sequence that the same operations produce on a map of plain sequences -/
theorem history_refines (ps : List Param) (hl : ListOK ps) (ops : List WOp) :
    ∀ (w : World) (A : Nat → Option AVec), WInv ps w A → WValid ps w A ops →
      WInv ps (ops.foldl (fun w op => op.apply ps w) w) (arun ps w A ops) := by
  induction ops with
  | nil => intro w A h _; exact h
  | cons op ops ih =>
    intro w A h hv
    simp only [List.foldl_cons, arun]
    exact ih _ _ (step_refines ps hl w A h op hv.1 hv.2.1) hv.2.2

theorem WInv.init (ps : List Param) (w : World) (h : ∀ k, w.vecs k = none) : WInv ps w (fun _ => none) := by
  intro k; rw [h k]; trivial

/-- the abstract map after a history in which allocations may fail at any point -/
def arunF (ps : List Param) : World → (Nat → Option AVec) → List WOp → (Nat → Option AVec)
  | _, A, [] => A
  | w, A, op :: ops =>
    arunF ps ({ (op.apply ps w) with threw := false }) (if (op.apply ps w).threw then op.aspecFail A else op.aspec ps w A) ops

/-- the world after a history; the caller catches `bad_alloc` and goes on (the flag is reset before the next operation) -/
def wrunF (ps : List Param) : World → List WOp → World
  | w, [] => w
  | w, op :: ops => wrunF ps ({ (op.apply ps w) with threw := false }) ops

def WValidF (ps : List Param) : World → (Nat → Option AVec) → List WOp → Prop
  | _, _, [] => True
  | w, A, op :: ops => op.Pre ps w A ∧
      WValidF ps ({ (op.apply ps w) with threw := false }) (if (op.apply ps w).threw then op.aspecFail A else op.aspec ps w A) ops

/-- **every history, allocation failures included**: whichever allocations throw `bad_alloc`, and however the caller goes
    on afterwards, every vector keeps representing the plain sequence of the abstract map, in which a failed operation
    has changed nothing (a failed copy assignment has emptied its target) -/
theorem history_refines_with_failures (ps : List Param) (hl : ListOK ps) (ops : List WOp) :
    ∀ (w : World) (A : Nat → Option AVec), WInv ps w A → WValidF ps w A ops →
      WInv ps (wrunF ps w ops) (arunF ps w A ops) := by
  induction ops with
  | nil => intro w A h _; exact h
  | cons op ops ih =>
    intro w A h hv
    simp only [wrunF, arunF]
    exact ih _ _ ((step_refines_any ps hl w A h op hv.1).of_vecs rfl) hv.2

end Cntgs
