/-
What the operations of `Vector.lean` do, read through `size()`, the element addresses, `data_end()`, the block contents and
the poison flag, for both locators at once (the `*_obs` lemmas), and what they leave alone (`SameFrame`): emplace_back,
pop_back, erase, clear and the relocation loops rebuild the vector from a locator of the same stride, new block contents and
a new poison flag.  `erase(first, last)` is destroy, `move_elements_forward`, `resize` (`eraseRange_eq`); each part is
described on its own.
-/
import Cntgs.Vector
namespace Cntgs

/-- `w` agrees with `v` in every field that no in-place operation other than `reserve` touches -/
structure SameFrame (v w : Vec) : Prop where
  ps : w.ps = v.ps
  fs : w.fs = v.fs
  cap : w.cap = v.cap
  units : w.units = v.units
  blk : w.blk = v.blk
  tbl : w.tbl = v.tbl
  alloc : w.alloc = v.alloc
  stride : w.loc.stride = v.loc.stride

theorem SameFrame.refl (v : Vec) : SameFrame v v := ⟨rfl, rfl, rfl, rfl, rfl, rfl, rfl, rfl⟩

theorem SameFrame.trans {u v w : Vec} (h1 : SameFrame u v) (h2 : SameFrame v w) : SameFrame u w :=
  ⟨h2.ps.trans h1.ps, h2.fs.trans h1.fs, h2.cap.trans h1.cap, h2.units.trans h1.units, h2.blk.trans h1.blk,
   h2.tbl.trans h1.tbl, h2.alloc.trans h1.alloc, h2.stride.trans h1.stride⟩

theorem SameFrame.rebuilt (v : Vec) (l : Loc) (m : Mem) (p : Bool) (hl : l.stride = v.loc.stride) :
    SameFrame v { v with loc := l, mem := m, poison := p } := ⟨rfl, rfl, rfl, rfl, rfl, rfl, rfl, hl⟩

theorem SameFrame.ite {c : Prop} [Decidable c] {v a b : Vec} (ha : SameFrame v a) (hb : SameFrame v b) :
    SameFrame v (if c then a else b) := by
  split
  · exact ha
  · exact hb

theorem fixedLoc_congr {v w : Vec} (h : w.ps = v.ps) : w.fixedLoc = v.fixedLoc := congrArg isFixedOrPlain h

theorem SameFrame.fixedLoc {v w : Vec} (h : SameFrame v w) : w.fixedLoc = v.fixedLoc := fixedLoc_congr h.ps

theorem addr_congr {v w : Vec} {k : Nat} (hfr : SameFrame v w) (hsl : w.loc.slots k = v.loc.slots k) : w.addr k = v.addr k := by
  unfold Vec.addr Vec.fixedLoc
  rw [hfr.ps, hfr.stride, hsl]

theorem relocateOne_frame (v : Vec) (i src : Nat) : SameFrame v (v.relocateOne i src) := by
  simp only [Vec.relocateOne]
  split
  · exact .rebuilt v _ _ _ rfl
  · exact .rebuilt v _ _ _ (by split <;> rfl)

theorem foldl_frame {α : Type} (f : Vec → α → Vec) (hf : ∀ v a, SameFrame v (f v a)) (l : List α) (v : Vec) :
    SameFrame v (l.foldl f v) := by
  induction l generalizing v with
  | nil => exact SameFrame.refl v
  | cons a as ih => exact (hf v a).trans (ih _)

theorem moveForward_frame (v : Vec) (src dst : Nat) : SameFrame v (v.moveForward src dst) :=
  .ite (.ite (.rebuilt v _ _ _ rfl) (.ite (.rebuilt v _ _ _ rfl) (.rebuilt v _ _ _ rfl)))
    (foldl_frame _ (fun w _ => relocateOne_frame w _ _) _ v)

theorem resize_stride (l : Loc) (f : Bool) (n : Nat) : (l.resize f n).stride = l.stride := by
  cases f <;> rfl

theorem resize_slots (l : Loc) (f : Bool) (n k : Nat) : (l.resize f n).slots k = l.slots k := by
  cases f <;> rfl

theorem emplaceBack_frame (v : Vec) (e : Elem) : SameFrame v (v.emplaceBack e) :=
  .ite (.rebuilt v _ _ _ rfl) (.rebuilt v _ _ _ rfl)

theorem popBack_frame (v : Vec) : SameFrame v v.popBack := .rebuilt v _ _ _ (resize_stride _ _ _)

theorem clear_frame (v : Vec) : SameFrame v v.clear := .rebuilt v _ _ _ (resize_stride _ _ _)

/-- `reserve` changes the capacity and the block size, so it is no `SameFrame` step (the new block itself comes with
    `World.reserve`) -/
theorem reserve_frame (v : Vec) (n b : Nat) (junk : Nat → Nat) :
    let w := v.reserve n b junk
    w.ps = v.ps ∧ w.fs = v.fs ∧ w.loc.stride = v.loc.stride ∧ w.blk = v.blk ∧ w.tbl = v.tbl := by
  unfold Vec.reserve
  by_cases h : v.cap < n
  · rw [if_pos h]; exact ⟨rfl, rfl, by cases v.fixedLoc <;> rfl, rfl, rfl⟩
  · rw [if_neg h]; exact ⟨rfl, rfl, rfl, rfl, rfl⟩

theorem reserve_obs (v : Vec) (n b : Nat) (junk : Nat → Nat) :
    let w := v.reserve n b junk
    w.size = v.size ∧ (∀ k, k < v.size → w.addr k = v.addr k) ∧ w.dataEnd = v.dataEnd ∧ w.mem = v.mem ∧ w.poison = v.poison := by
  unfold Vec.reserve
  by_cases h : v.cap < n
  · rw [if_pos h]
    cases hf : isFixedOrPlain v.ps with
    | true => simp only [Vec.size, Vec.addr, Vec.dataEnd, Vec.fixedLoc, hf, if_true, implies_true, and_self]
    | false =>
      simp only [Vec.size, Vec.addr, Vec.dataEnd, Vec.fixedLoc, hf, Bool.false_eq_true, if_false, true_and, and_true]
      exact fun k hk => if_pos hk
  · rw [if_neg h]; exact ⟨rfl, fun _ _ => rfl, rfl, rfl, rfl⟩

/-- where `emplace_back` constructs -/
def Vec.nextStart (v : Vec) : Nat := if v.fixedLoc then v.dataEnd else alignFirst v.ps v.dataEnd

theorem emplaceBack_obs (v : Vec) (e : Elem) :
    let w := v.emplaceBack e
    let fin := placeEnd v.ps (elemCounts e) v.nextStart
    w.size = v.size + 1 ∧ (∀ k, w.addr k = if k = v.size then v.nextStart else v.addr k) ∧
    w.dataEnd = (if v.fixedLoc then v.nextStart + v.loc.stride else fin) ∧
    w.mem = v.mem.write v.nextStart (fin - v.nextStart) e ∧
    w.poison = (v.poison || v.mem.hits v.nextStart (fin - v.nextStart)) := by
  cases hf : isFixedOrPlain v.ps with
  | true =>
    simp only [Vec.emplaceBack, Vec.nextStart, Vec.size, Vec.addr, Vec.dataEnd, Vec.fixedLoc, hf, if_true, Nat.mul_succ, true_and, and_true]
    intro k; split
    · rename_i h; rw [h]
    · rfl
  | false =>
    simp only [Vec.emplaceBack, Vec.nextStart, Vec.size, Vec.addr, Vec.dataEnd, Vec.fixedLoc, hf, Bool.false_eq_true, if_false,
      Loc.setSlot, and_true, implies_true]

def Vec.withMem (v : Vec) (m : Mem) : Vec := { v with mem := m }

theorem Vec.withMem_size (v : Vec) (m : Mem) : (v.withMem m).size = v.size := rfl

theorem withMem_frame (v : Vec) (m : Mem) : SameFrame v (v.withMem m) := .rebuilt v _ _ _ rfl

/-- `locator_->resize(n)` -/
def Vec.resized (u : Vec) (n : Nat) : Vec := { u with loc := u.loc.resize u.fixedLoc n }

theorem resized_frame (u : Vec) (n : Nat) : SameFrame u (u.resized n) := .rebuilt u _ _ _ (resize_stride _ _ _)

theorem resized_addr (u : Vec) (n k : Nat) : (u.resized n).addr k = u.addr k :=
  addr_congr (resized_frame u n) (resize_slots _ _ _ _)

theorem resized_obs (u : Vec) (n : Nat) (hn : n ≤ u.size) :
    (u.resized n).size = n ∧
    (u.resized n).dataEnd = (if n = 0 then 0 else if n < u.size then u.addr n else u.dataEnd) := by
  cases hf : isFixedOrPlain u.ps with
  | true =>
    simp only [Vec.size, Vec.fixedLoc, hf, if_true] at hn
    simp only [Vec.resized, Loc.resize, Vec.size, Vec.addr, Vec.dataEnd, Vec.fixedLoc, hf, if_true, true_and]
    split
    · rename_i h; rw [h]; rfl
    · split
      · rfl
      · rename_i h; rw [Nat.le_antisymm hn (Nat.le_of_not_lt h)]
  | false =>
    simp only [Vec.resized, Loc.resize, Vec.size, Vec.addr, Vec.dataEnd, Vec.fixedLoc, hf, Bool.false_eq_true, if_false, true_and]

theorem erase_eq (v : Vec) (i : Nat) :
    v.erase i = ((v.withMem (v.destructRange i (i + 1))).moveForward (i + 1) i).resized (v.size - 1) := rfl

theorem eraseRange_eq (v : Vec) (i j : Nat) :
    v.eraseRange i j =
      (if j < v.size ∧ i ≠ j then (v.withMem (v.destructRange i j)).moveForward j i
       else v.withMem (v.destructRange i j)).resized (v.size - (j - i)) := by
  unfold Vec.eraseRange Vec.resized; rfl

theorem erase_frame (v : Vec) (i : Nat) : SameFrame v (v.erase i) :=
  erase_eq v i ▸ ((withMem_frame v _).trans (moveForward_frame _ _ _)).trans (resized_frame _ _)

theorem eraseRange_frame (v : Vec) (i j : Nat) : SameFrame v (v.eraseRange i j) :=
  eraseRange_eq v i j ▸ (SameFrame.ite ((withMem_frame v _).trans (moveForward_frame _ _ _)) (withMem_frame v _)).trans
    (resized_frame _ _)

/-- the memmove path of `move_elements_forward(i + d, i)`, `n` elements remaining; table slot `n`, which gets the new end, is
    the one that `resize` reads next -/
theorem moveForward_trivial_obs (u : Vec) (i d n : Nat) (ht : u.trivialReloc = true) (hsz : u.size = n + d) (hi : i < n)
    (hd : 0 < d) :
    let w := u.moveForward (i + d) i
    let src := u.addr (i + d)
    w.size = u.size ∧ (∀ k, k < i → w.addr k = u.addr k) ∧
    (∀ k, i ≤ k → k < n → w.addr k = u.addr (k + d) - (src - u.addr i)) ∧ w.addr n = u.dataEnd - (src - u.addr i) ∧
    w.mem = u.mem.move src (u.dataEnd - src) (u.addr i) ∧
    w.poison = (u.poison || u.mem.moveHits src (u.dataEnd - src) (u.addr i)) := by
  have ht' : (u.ps.all fun p => p.ty.trivMoveCtor && p.ty.trivDtor) = true := ht
  cases hf : isFixedOrPlain u.ps with
  | true =>
    -- stride locator: addresses are `stride * k`; every conjunct is arithmetic on `Nat.mul_add`
    simp only [Vec.size, Vec.fixedLoc, hf, if_true] at hsz
    simp only [Vec.moveForward, Vec.trivialReloc, ht', Vec.moveForwardTrivial, Vec.size, Vec.addr, Vec.dataEnd, Vec.fixedLoc, hf,
      hsz, if_true, Bool.not_true, Bool.false_and, Bool.false_eq_true, if_false, Nat.mul_add, Nat.add_sub_cancel_left,
      Nat.add_sub_cancel, implies_true, and_self]
  | false =>
    simp only [Vec.size, Vec.fixedLoc, hf, Bool.false_eq_true, if_false] at hsz
    -- offset table: `hg` rules out the early return for an empty tail; what is left are the three branches of the new slots
    have hg : (i + d == n + d) = false := beq_eq_false_iff_ne.mpr (fun h => Nat.ne_of_lt hi (Nat.add_right_cancel h))
    simp only [Vec.moveForward, Vec.trivialReloc, ht', Vec.moveForwardTrivial, Vec.size, Vec.addr, Vec.dataEnd, Vec.fixedLoc, hf,
      hsz, hg, if_true, Bool.not_false, Bool.true_and, Bool.false_eq_true, if_false, Nat.add_sub_add_right, Nat.add_sub_cancel_left,
      Nat.add_sub_cancel, Nat.add_sub_cancel' (Nat.le_of_lt hi), true_and, and_true]
    refine ⟨fun k hk => ?_, fun k h1 h2 => ?_, ?_⟩
    · -- in front of `i`: untouched
      rw [if_neg (fun h => Nat.not_le.mpr hk h.1), if_neg (fun h => Nat.ne_of_lt (Nat.lt_trans hk hi) h.2)]
    · -- the remaining elements: brought forward
      rw [if_pos ⟨h1, h2⟩]
    · -- slot `n` (the one `resize` will read; a different slot from `n + d` as `0 < d`) gets the new end
      rw [if_neg (fun h => Nat.lt_irrefl n h.2), if_pos (Nat.ne_of_gt (Nat.lt_add_of_pos_right hd))]

theorem moveForward_elementwise (u : Vec) (c d t : Nat) (hsz : u.size = c + t + d) (ht : u.trivialReloc = false) :
    u.moveForward (c + d) c = (List.range' c t).foldl (fun (w : Vec) q => w.relocateOne q (q + d)) u := by
  rw [List.range'_eq_map_range, List.foldl_map]
  simp only [Vec.moveForward, ht, Bool.false_eq_true, if_false, Vec.moveForwardElementwise, hsz,
    Nat.add_right_comm c t d, Nat.add_sub_cancel_left, Nat.add_right_comm c _ d]

theorem relocateOne_eq (w : Vec) (c src : Nat) (r : Rec) (hfind : w.mem.find? (fun x => x.off == w.addr src) = some r)
    (hfin : placeEnd w.ps (elemCounts r.e) (w.addr c) = w.addr c + r.sz)
    (hhit : (w.mem.drop (w.addr src)).hits (w.addr c) r.sz = false) (hov : w.addr c + r.sz ≤ w.addr src) :
    w.relocateOne c src =
      { w with mem := (w.mem.drop (w.addr src)).write (w.addr c) r.sz r.e,
               loc := if w.fixedLoc then w.loc else w.loc.setSlot (c + 1) (alignFirst w.ps (w.addr c + r.sz)) } := by
  have hno : decide (w.addr src < w.addr c + r.sz) = false := decide_eq_false (Nat.not_lt.mpr hov)
  simp only [Vec.relocateOne, hfind, hfin, Nat.add_sub_cancel_left, hhit, hno, Bool.and_false, Bool.or_false]

theorem popBack_eq_eraseRange (v : Vec) (hpos : 0 < v.size) : v.popBack = v.eraseRange (v.size - 1) v.size := by
  simp only [Vec.popBack, Vec.eraseRange, Nat.lt_irrefl, false_and, if_false, Vec.destructRange, Nat.sub_sub_self hpos, List.range_one,
    List.map_cons, List.map_nil, List.foldl_cons, List.foldl_nil, Nat.zero_add]
  rfl

theorem clear_eq_eraseRange (v : Vec) : v.clear = v.eraseRange 0 v.size := by
  simp only [Vec.clear, Vec.eraseRange, Nat.lt_irrefl, false_and, if_false, Nat.sub_zero, Nat.sub_self]
  rfl

theorem meets_zero (r : Rec) (a : Nat) : r.meets a 0 = false := by simp [Rec.meets]

theorem move_zero (m : Mem) (hpos : ∀ r ∈ m, 0 < r.sz) (s t : Nat) : m.move s 0 t = m ∧ m.moveHits s 0 t = false := by
  have hin : ∀ r ∈ m, r.inside s 0 = false := by
    intro r hr
    have := hpos r hr
    simp only [Rec.inside, Nat.add_zero, Bool.and_eq_false_iff, decide_eq_false_iff_not]
    omega
  constructor
  · unfold Mem.move
    rw [List.filter_eq_nil_iff.mpr (fun r hr => by simp [hin r hr]), List.map_nil, List.nil_append,
      List.filter_eq_self.mpr (fun r hr => by simp [hin r hr, meets_zero])]
  · unfold Mem.moveHits; simp [meets_zero]

/-- asked to move the elements from `size()` on, `move_elements_forward` does nothing: the offset-table locator returns at
    once, the stride locator calls memmove for no bytes, the element-wise loop does not run -/
theorem moveForward_at_end (u : Vec) (dst : Nat) (hpos : ∀ r ∈ u.mem, 0 < r.sz) : u.moveForward u.size dst = u := by
  unfold Vec.moveForward
  cases ht : u.trivialReloc with
  | false => simp [Vec.moveForwardElementwise]
  | true =>
    cases hf : isFixedOrPlain u.ps with
    | false =>
      simp [Vec.moveForwardTrivial, Vec.fixedLoc, Vec.size, hf]
    | true =>
      obtain ⟨hm, hh⟩ := move_zero _ hpos (u.loc.stride * u.loc.count) (u.loc.stride * dst)
      simp [Vec.moveForwardTrivial, Vec.fixedLoc, Vec.size, hf, Vec.addr, Vec.dataEnd, hm, hh]

/-- `erase(position)` of the last element still calls `move_elements_forward`, for no element.  `hpos`: a record without
    bytes would count as lying inside the empty source range of the stride locator's memmove. -/
theorem erase_eq_eraseRange (v : Vec) (i : Nat) (hi : i < v.size) (hpos : ∀ r ∈ v.destructRange i (i + 1), 0 < r.sz) :
    v.erase i = v.eraseRange i (i + 1) := by
  rw [erase_eq, eraseRange_eq, Nat.add_sub_cancel_left]
  by_cases hlast : i + 1 < v.size
  · rw [if_pos ⟨hlast, Nat.ne_of_lt (Nat.lt_succ_self i)⟩]
  · have hm := moveForward_at_end (v.withMem (v.destructRange i (i + 1))) i hpos
    rw [Vec.withMem_size, Nat.le_antisymm (Nat.le_of_not_lt hlast) hi] at hm
    rw [if_neg (fun h => hlast h.1), hm]

theorem reserve_noop (v : Vec) (n b : Nat) (junk : Nat → Nat) (h : n ≤ v.cap) : v.reserve n b junk = v := by
  unfold Vec.reserve; simp [Nat.not_lt.mpr h]

theorem reserve_cap (v : Vec) (n b : Nat) (junk : Nat → Nat) (h : v.cap < n) : (v.reserve n b junk).cap = n := by
  unfold Vec.reserve; simp [h]

theorem clear_size (v : Vec) : v.clear.size = 0 := by
  unfold Vec.size Vec.clear Vec.fixedLoc
  cases isFixedOrPlain v.ps <;> rfl

end Cntgs
