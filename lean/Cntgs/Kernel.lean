/-
M0 — bit kernel of `src/cntgs/detail/memory.hpp:160-222` on unbounded naturals.

  align(position, alignment)            ↦ alignUp
  extract_lowest_set_bit(value)         ↦ lowBit
  trailing_alignment(byte_size, al)     ↦ trailAl
  align_if<NeedsAlignment, Alignment>   ↦ alignIf

The C++ computes these on 64-bit words; there are no word-level versions here: the
correspondence run executes these functions beside the C++ and compares every arithmetic result through the
hooks guarded by `CNTGS_VERIF_HOOKS`.
-/
namespace Cntgs

/-- `extract_lowest_set_bit` on `Nat`: the largest power of two dividing `v`; `0 ↦ 0`. -/
def lowBit (v : Nat) : Nat :=
  if h : v = 0 then 0 else if v % 2 = 1 then 1 else 2 * lowBit (v / 2)
termination_by v
decreasing_by omega

/-- `detail::align(position, alignment)` for a power-of-two alignment: round up. -/
def alignUp (p a : Nat) : Nat := (p + a - 1) / a * a

/-- `detail::trailing_alignment(byte_size, alignment)` -/
def trailAl (bytes al : Nat) : Nat := min (lowBit bytes) al

/-- `detail::align_if<NeedsAlignment, Alignment>(position)` -/
def alignIf (c : Bool) (a p : Nat) : Nat := if c && decide (a > 1) then alignUp p a else p

def IsPow2 (n : Nat) : Prop := ∃ k, n = 2 ^ k

/-! ### powers of two: totally ordered by divisibility -/

theorem IsPow2.pos {n} (h : IsPow2 n) : 0 < n := by
  obtain ⟨k, rfl⟩ := h; exact Nat.two_pow_pos k

theorem IsPow2.one : IsPow2 1 := ⟨0, rfl⟩

theorem IsPow2.dvd_of_le {a b} (ha : IsPow2 a) (hb : IsPow2 b) (h : a ≤ b) : a ∣ b := by
  obtain ⟨i, rfl⟩ := ha; obtain ⟨j, rfl⟩ := hb
  apply Nat.pow_dvd_pow
  exact (Nat.pow_le_pow_iff_right Nat.one_lt_two).mp h

theorem IsPow2.dvd_of_le_of_dvd {d k x : Nat} (hd : IsPow2 d) (hk : IsPow2 k) (h : d ≤ k) (hx : k ∣ x) : d ∣ x :=
  Nat.dvd_trans (hd.dvd_of_le hk h) hx

theorem pow2_min {a b} (ha : IsPow2 a) (hb : IsPow2 b) : IsPow2 (min a b) := by
  rcases Nat.le_total a b with h | h
  · rw [Nat.min_eq_left h]; exact ha
  · rw [Nat.min_eq_right h]; exact hb

theorem pow2_max {a b} (ha : IsPow2 a) (hb : IsPow2 b) : IsPow2 (max a b) := by
  rcases Nat.le_total a b with h | h
  · rw [Nat.max_eq_right h]; exact hb
  · rw [Nat.max_eq_left h]; exact ha

theorem dvd_min_left {a b} (ha : IsPow2 a) (hb : IsPow2 b) : min a b ∣ a :=
  (pow2_min ha hb).dvd_of_le ha (Nat.min_le_left _ _)
theorem dvd_min_right {a b} (ha : IsPow2 a) (hb : IsPow2 b) : min a b ∣ b :=
  (pow2_min ha hb).dvd_of_le hb (Nat.min_le_right _ _)

theorem min_dvd_min {x A B : Nat} (hx : IsPow2 x) (hA : IsPow2 A) (hB : IsPow2 B) (h : A ≤ B) : min x A ∣ min x B :=
  (pow2_min hx hA).dvd_of_le (pow2_min hx hB)
    (Nat.le_min.mpr ⟨Nat.min_le_left _ _, Nat.le_trans (Nat.min_le_right _ _) h⟩)

theorem lowBit_zero : lowBit 0 = 0 := by rw [lowBit, dif_pos rfl]

theorem lowBit_spec (v : Nat) (hv : 0 < v) : IsPow2 (lowBit v) ∧ lowBit v ∣ v := by
  fun_induction lowBit v with
  | case1 => exact absurd hv (Nat.lt_irrefl 0)
  | case2 => exact ⟨.one, Nat.one_dvd _⟩
  | case3 v h hodd ih =>
    have h2 : 2 ∣ v := Nat.dvd_of_mod_eq_zero ((Nat.mod_two_eq_zero_or_one v).resolve_right hodd)
    obtain ⟨⟨k, hk⟩, hd⟩ := ih (Nat.div_pos (Nat.le_of_dvd hv h2) Nat.two_pos)
    exact ⟨⟨k + 1, by rw [hk, Nat.pow_succ']⟩, Nat.mul_dvd_of_dvd_div h2 hd⟩

theorem lowBit_le (v : Nat) : lowBit v ≤ v := by
  rcases Nat.eq_zero_or_pos v with h | h
  · rw [h, lowBit_zero]; exact Nat.le_refl 0
  · exact Nat.le_of_dvd h (lowBit_spec v h).2

/-- maximality: with `lowBit_spec`, `lowBit v` is the largest power of two dividing `v` -/
theorem dvd_lowBit {v : Nat} (hv : 0 < v) {k : Nat} (h : 2 ^ k ∣ v) : 2 ^ k ∣ lowBit v := by
  induction k generalizing v with
  | zero => exact Nat.one_dvd _
  | succ k ih =>
    rw [Nat.pow_succ'] at h ⊢
    have h2 : 2 ∣ v := Nat.dvd_trans (Nat.dvd_mul_right 2 _) h
    rw [lowBit, dif_neg (Nat.ne_of_gt hv), if_neg (by rw [Nat.mod_eq_zero_of_dvd h2]; decide)]
    exact Nat.mul_dvd_mul_left 2
      (ih (Nat.div_pos (Nat.le_of_dvd hv h2) Nat.two_pos) ((Nat.dvd_div_iff_mul_dvd h2).mpr h))

theorem trailAl_zero (a : Nat) : trailAl 0 a = 0 := by simp [trailAl, lowBit_zero]

theorem trailAl_le (b a : Nat) : trailAl b a ≤ a := Nat.min_le_right _ _

theorem pow2_trailAl {b a : Nat} (hb : 0 < b) (ha : IsPow2 a) : IsPow2 (trailAl b a) :=
  pow2_min (lowBit_spec b hb).1 ha

theorem trailAl_min (b a g : Nat) : trailAl b (min a g) = min (trailAl b a) g := (Nat.min_assoc _ _ _).symm

/-- `trailing_alignment(sizeof(T), a)` is true of the end of every array of `T` that starts `a`-aligned -/
theorem trailAl_dvd_add_mul {b a x : Nat} (c : Nat) (hb : 0 < b) (ha : IsPow2 a) (hx : a ∣ x) : trailAl b a ∣ x + b * c := by
  obtain ⟨hp, hd⟩ := lowBit_spec b hb
  exact Nat.dvd_add (Nat.dvd_trans (dvd_min_right hp ha) hx)
    (Nat.dvd_trans (Nat.dvd_trans (dvd_min_left hp ha) hd) (Nat.dvd_mul_right _ _))

/-! ### `alignUp p a`: the only multiple of `a` in `[p, p + a)` -/

theorem alignUp_dvd (p a : Nat) : a ∣ alignUp p a := by
  unfold alignUp; exact Nat.dvd_mul_left _ _

theorem alignUp_bounds (p a : Nat) (ha : 0 < a) : p ≤ alignUp p a ∧ alignUp p a < p + a :=
  -- with `n = p + a - 1`: `n < n / a * a + a` and `n / a * a ≤ n`
  ⟨Nat.le_of_add_le_add_right (Nat.le_of_pred_lt (Nat.lt_div_mul_add ha)),
    Nat.lt_of_le_of_lt (Nat.div_mul_le_self _ a) (Nat.sub_lt (Nat.add_pos_right p ha) Nat.one_pos)⟩

theorem alignUp_ge (p a : Nat) (ha : 0 < a) : p ≤ alignUp p a := (alignUp_bounds p a ha).1

theorem add_le_of_dvd_of_lt {k x y : Nat} (hx : k ∣ x) (hy : k ∣ y) (h : x < y) : x + k ≤ y := by
  obtain ⟨i, rfl⟩ := hx
  obtain ⟨j, rfl⟩ := hy
  exact Nat.mul_le_mul_left k (Nat.lt_of_mul_lt_mul_left h)

theorem le_of_dvd_of_lt_add {a p x y : Nat} (hx : a ∣ x) (hy : a ∣ y) (hxp : x < p + a) (hpy : p ≤ y) : x ≤ y :=
  Nat.le_of_not_lt fun h =>
    absurd (Nat.lt_of_le_of_lt (add_le_of_dvd_of_lt hy hx h) hxp) (Nat.not_lt.mpr (Nat.add_le_add_right hpy a))

theorem alignUp_le_of_dvd {p a q : Nat} (ha : 0 < a) (hq : a ∣ q) (hpq : p ≤ q) : alignUp p a ≤ q :=
  le_of_dvd_of_lt_add (alignUp_dvd p a) hq (alignUp_bounds p a ha).2 hpq

theorem alignUp_unique {p a q : Nat} (hq : a ∣ q) (hpq : p ≤ q) (hlt : q < p + a) : alignUp p a = q :=
  have ha : 0 < a := Nat.pos_of_ne_zero fun h => Nat.not_lt.mpr hpq (by rwa [h] at hlt)
  Nat.le_antisymm (alignUp_le_of_dvd ha hq hpq) (le_of_dvd_of_lt_add hq (alignUp_dvd p a) hlt (alignUp_ge p a ha))

theorem alignUp_of_dvd (p a : Nat) (ha : 0 < a) (h : a ∣ p) : alignUp p a = p :=
  alignUp_unique h (Nat.le_refl _) (Nat.lt_add_of_pos_right ha)

theorem alignUp_add_of_dvd (x o a : Nat) (ha : 0 < a) (h : a ∣ x) : alignUp (x + o) a = x + alignUp o a :=
  have ⟨h1, h2⟩ := alignUp_bounds o a ha
  alignUp_unique (Nat.dvd_add h (alignUp_dvd o a)) (Nat.add_le_add_left h1 x)
    (by rw [Nat.add_assoc]; exact Nat.add_lt_add_left h2 x)

theorem alignUp_add_mul (m b o a : Nat) (ha : 0 < a) (h : a ∣ b) :
    alignUp (m * b + o) a = m * b + alignUp o a :=
  alignUp_add_of_dvd _ o a ha (Nat.dvd_trans h (Nat.dvd_mul_left _ _))

theorem alignUp_mono {p q a : Nat} (ha : 0 < a) (h : p ≤ q) : alignUp p a ≤ alignUp q a :=
  alignUp_le_of_dvd ha (alignUp_dvd q a) (Nat.le_trans h (alignUp_ge q a ha))

/-- from a multiple of a power of two `k`, the next multiple of a power of two `n` is at most `n - k` away: the padding that
    `trailing_padding` and `aligned_size_in_memory` add when their bracket `k` is below `n`; when `n ≤ k` nothing is added,
    and that is exact -/
theorem alignUp_pad {E k n : Nat} (hk : IsPow2 k) (hn : IsPow2 n) (hd : k ∣ E) :
    alignUp E n ≤ E + (if k < n then n - k else 0) ∧ (n ≤ k → alignUp E n = E + (if k < n then n - k else 0)) := by
  rcases Nat.lt_or_ge k n with hkn | hnk
  · rw [if_pos hkn]
    refine ⟨?_, fun h => absurd hkn (Nat.not_lt.mpr h)⟩
    -- `alignUp E n` and `E + n` are multiples of `k`, the first below the second
    have hkd := hk.dvd_of_le hn (Nat.le_of_lt hkn)
    rw [← Nat.add_sub_assoc (Nat.le_of_lt hkn)]
    exact Nat.le_sub_of_add_le (add_le_of_dvd_of_lt (Nat.dvd_trans hkd (alignUp_dvd E n)) (Nat.dvd_add hd hkd)
      (alignUp_bounds E n hn.pos).2)
  · have e := alignUp_of_dvd _ _ hn.pos (hn.dvd_of_le_of_dvd hk hnk hd)
    rw [if_neg (Nat.not_lt.mpr hnk)]
    exact ⟨Nat.le_of_eq e, fun _ => e⟩

/-- `align_if` is `align` unless it is told that no alignment is needed, and then it is right if that is true -/
theorem alignIf_eq_alignUp {c : Bool} {a p : Nat} (ha : 0 < a) (h : c = false → a ∣ p) :
    alignIf c a p = alignUp p a := by
  unfold alignIf
  split
  · rfl
  · rename_i hc
    refine (alignUp_of_dvd p a ha ?_).symm
    cases c with
    | false => exact h rfl
    | true => rw [Nat.le_antisymm (Nat.not_lt.mp (by simpa using hc)) ha]; exact Nat.one_dvd p

/-- the decision `prev < al` is right whenever the compile-time claim `prev`, as far as it is visible inside a
    bracket `A ≥ al`, is true of `off`: the code never skips an alignment step that is needed -/
theorem alignIf_claim {prev A al off : Nat} (hprev : IsPow2 prev) (hA : IsPow2 A) (hal : IsPow2 al) (hle : al ≤ A)
    (hclaim : min prev A ∣ off) : alignIf (decide (prev < al)) al off = alignUp off al :=
  alignIf_eq_alignUp hal.pos fun h =>
    hal.dvd_of_le_of_dvd (pow2_min hprev hA) (Nat.le_min.mpr ⟨Nat.not_lt.mp (of_decide_eq_false h), hle⟩) hclaim

theorem alignIf_eq {prev al addr : Nat} (hprev : IsPow2 prev) (hal : IsPow2 al) (hd : prev ∣ addr) :
    alignIf (decide (prev < al)) al addr = alignUp addr al :=
  alignIf_eq_alignUp hal.pos fun h => hal.dvd_of_le_of_dvd hprev (Nat.not_lt.mp (of_decide_eq_false h)) hd

/-! ### what is known of an address: congruence modulo a bracket -/

/-- congruence modulo `g`, without subtraction -/
def Cong (x y g : Nat) : Prop := ∃ k1 k2, x + k1 * g = y + k2 * g

theorem Cong.refl (x g : Nat) : Cong x x g := ⟨0, 0, rfl⟩

theorem Cong.symm {x y g : Nat} (h : Cong x y g) : Cong y x g := by
  obtain ⟨k1, k2, hk⟩ := h; exact ⟨k2, k1, hk.symm⟩

theorem Cong.trans {x y z g : Nat} (h1 : Cong x y g) (h2 : Cong y z g) : Cong x z g := by
  obtain ⟨k1, k2, hk⟩ := h1
  obtain ⟨j1, j2, hj⟩ := h2
  exact ⟨k1 + j1, k2 + j2, by rw [Nat.add_mul, Nat.add_mul]; omega⟩

/-- the bracket knowledge `addr = m * g + o` of the code's comments -/
theorem Cong.of_eq {x y g m : Nat} (h : x = m * g + y) : Cong x y g :=
  ⟨0, m, by rw [h, Nat.zero_mul, Nat.add_zero, Nat.add_comm]⟩

theorem Cong.to_eq {x y g : Nat} (h : Cong x y g) (hle : y ≤ x) : ∃ m, x = m * g + y := by
  obtain ⟨k1, k2, hk⟩ := h
  exact ⟨k2 - k1, by rw [Nat.sub_mul]; omega⟩

theorem Cong.of_dvd {x y g : Nat} (hx : g ∣ x) (hy : g ∣ y) : Cong x y g := by
  obtain ⟨q, rfl⟩ := hx; obtain ⟨r, rfl⟩ := hy
  exact ⟨r, q, by rw [Nat.mul_comm r, Nat.mul_comm q, Nat.add_comm]⟩

theorem Cong.mono {x y g g' : Nat} (h : Cong x y g) (hd : g' ∣ g) : Cong x y g' := by
  obtain ⟨k1, k2, hk⟩ := h
  obtain ⟨q, rfl⟩ := hd
  exact ⟨k1 * q, k2 * q, by rw [Nat.mul_assoc, Nat.mul_assoc, Nat.mul_comm q g', hk]⟩

theorem Cong.add_right {x y g : Nat} (h : Cong x y g) (c : Nat) : Cong (x + c) (y + c) g := by
  obtain ⟨k1, k2, hk⟩ := h
  exact ⟨k1, k2, by rw [Nat.add_right_comm, hk, Nat.add_right_comm]⟩

theorem Cong.dvd {x y g d : Nat} (h : Cong x y g) (hg : d ∣ g) (hy : d ∣ y) : d ∣ x := by
  obtain ⟨k1, k2, hk⟩ := h
  have h1 : d ∣ y + k2 * g := Nat.dvd_add hy (Nat.dvd_trans hg (Nat.dvd_mul_left _ _))
  rw [← hk] at h1
  exact (Nat.dvd_add_iff_left (Nat.dvd_trans hg (Nat.dvd_mul_left _ _))).mpr h1

/-- aligning to `al` keeps what is known modulo `g`, and makes `al` known -/
theorem Cong.align {x y g al : Nat} (h : Cong x y g) (hg : IsPow2 g) (hal : IsPow2 al) :
    Cong (alignUp x al) (alignUp y al) (max g al) := by
  rcases Nat.le_total al g with hle | hle
  · rw [Nat.max_eq_left hle]
    obtain ⟨k1, k2, hk⟩ := h
    have e : ∀ z k, alignUp (z + k * g) al = alignUp z al + k * g := fun z k => by
      rw [Nat.add_comm, alignUp_add_mul k g z al hal.pos (hal.dvd_of_le hg hle), Nat.add_comm]
    exact ⟨k1, k2, by rw [← e, ← e, hk]⟩
  · rw [Nat.max_eq_right hle]; exact Cong.of_dvd (alignUp_dvd _ _) (alignUp_dvd _ _)

/-- `trailing_alignment(o, g)` is a true claim about every address that is `o` modulo `g` -/
theorem Cong.trailAl_dvd {x o g : Nat} (h : Cong x o g) (hg : IsPow2 g) (ho : 0 < o) : trailAl o g ∣ x := by
  obtain ⟨hp, hd⟩ := lowBit_spec o ho
  exact h.dvd (dvd_min_right hp hg) (Nat.dvd_trans (dvd_min_left hp hg) hd)

theorem trailAl_dvd {m a o : Nat} (ha : IsPow2 a) (ho : 0 < o) :
    IsPow2 (trailAl o a) ∧ trailAl o a ∣ m * a + o ∧ trailAl o a ≤ a :=
  ⟨pow2_trailAl ho ha, (Cong.of_eq rfl).trailAl_dvd ha ho, trailAl_le o a⟩

end Cntgs
