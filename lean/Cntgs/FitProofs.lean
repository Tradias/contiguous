/-
C02 for lists with a VaryingSize parameter: `calculate_element_size` over-approximates the extent of every element
(`elemSize_bound`, the bound of `elemSize_track`), so a vector constructed for `N` elements and `B` bytes of varying
payload holds every sequence of at most `N` elements whose varying payloads total at most `B` (`fit_offset_table`).
-/
import Cntgs.SizeProofs
import Cntgs.VectorProofs
namespace Cntgs

theorem min_pow2_dvd_left {a b : Nat} (ha : IsPow2 a) (hb : IsPow2 b) : min a b ∣ a := dvd_min_left ha hb
theorem min_pow2_dvd_right {a b : Nat} (ha : IsPow2 a) (hb : IsPow2 b) : min a b ∣ b := dvd_min_right ha hb

theorem szGo_sound :
    ∀ (ps : List Param) (fs cs ns : List Nat) (prev o a : Nat) (st : SzSt) (addr : Nat) (pp : Bool),
      (∀ p ∈ ps, WfParam p) → CountsMatch ps fs cs → ps.length ≤ ns.length →
      VarOK pp ps → (pp = true → 0 < st.offset) → SzInv o a prev st addr →
      goEnd ps cs addr + st.size ≤ addr + (szGo ps fs (trailingGo ps o a) ns prev st).size + varBytes ps cs ∧
      (∀ nl, (ns.take ps.length).getLast? = some nl → IsPow2 nl →
        alignUp (goEnd ps cs addr) nl ≤ goEnd ps cs addr + (szGo ps fs (trailingGo ps o a) ns prev st).padding) :=
  fun _ _ _ _ _ _ _ _ _ _ hwf hcm hln hvo hpp hinv =>
    -- the size part of `szGo_track`, and its padding part without the equality clause
    have ⟨hsize, hpad, _⟩ := szGo_track hwf hcm hln hvo hpp hinv rfl
    ⟨hsize, fun nl hnl hp => (hpad nl hnl hp).1⟩

/-- **`calculate_element_size` is sufficient**: for every well-formed parameter list and every element whose plain /
    FixedSize fields have the vector's counts — whatever the VaryingSize counts — the real extent of the element is at
    most `size` plus its varying bytes, and the extent rounded up to the storage alignment (where the next element
    starts) is at most `stride` plus its varying bytes. -/
theorem elemSize_bound (ps : List Param) (fs cs : List Nat) (hwf : ∀ p ∈ ps, WfParam p) (hne : ps ≠ [])
    (hcm : CountsMatch ps fs cs) (hvo : VarOK false ps) :
    goEnd ps cs 0 ≤ (elemSize ps fs).size + varBytes ps cs ∧
    alignUp (goEnd ps cs 0) (storageAl ps) ≤ (elemSize ps fs).stride + varBytes ps cs := by
  have h := elemSize_track ps fs cs hwf hne hcm hvo
  exact ⟨h.1, h.2.1⟩

/-- total VaryingSize payload of a sequence of elements, in bytes -/
def varPayload (ps : List Param) (es : List Elem) : Nat := (es.map (fun e => varBytes ps (elemCounts e))).sum

/-- Slots of width `w e` for elements of extent `z e`, when an element with `b e` varying bytes has extent at most
    `size + b e` and width at most `stride + b e`: element `k` ends at most `stride * k + size`, plus the varying bytes
    of the elements up to it, behind the begin of the first slot. -/
theorem offs_end_le (w z b : Elem → Nat) (stride size : Nat) (es : List Elem)
    (h : ∀ e ∈ es, z e ≤ size + b e ∧ w e ≤ stride + b e) (k : Nat) (hk : k < es.length) :
    offs w es k + z (es.getD k []) ≤ stride * k + size + offs b es (k + 1) := by
  have hw : ∀ j, j ≤ k → offs w es j ≤ stride * j + offs b es j := by
    intro j hj
    induction j with
    | zero => rw [offs_zero]; exact Nat.zero_le _
    | succ j ih =>
      have hj' : j < es.length := Nat.lt_of_lt_of_le hj (Nat.le_of_lt hk)
      rw [offs_succ w es j hj', offs_succ b es j hj', Nat.mul_succ, Nat.add_add_add_comm]
      exact Nat.add_le_add (ih (Nat.le_of_succ_le hj)) (h _ (getD_mem es j hj')).2
  rw [offs_succ b es k hk, Nat.add_add_add_comm]
  exact Nat.add_le_add (hw k (Nat.le_refl k)) (h _ (getD_mem es k hk)).1

/-- room for `N` elements and `B` bytes of varying payload, in terms of `memory_consumption()`; `C02.fit_offset_table` and
    `C02.reserve_room` are this for the block of `Vec.new` and of `reserve` -/
theorem fit_offset_table (ps : List Param) (fs : List Nat) (N B : Nat) (hl : ListOK ps) (hvo : VarOK false ps)
    (es : List Elem) (hm : ∀ e ∈ es, CountsMatch ps fs (elemCounts e)) (hN : es.length ≤ N) (hB : varPayload ps es ≤ B) :
    ∀ k, k < es.length →
      canonOff ps es k + esz ps (es.getD k []) ≤ units (needed N B (elemSize ps fs)) (storageAl ps) * storageAl ps := by
  intro k hk
  let sz := elemSize ps fs
  let pay : Elem → Nat := fun e => varBytes ps (elemCounts e)
  -- the varying bytes of the elements up to `k` are part of the whole payload
  have hpay : offs pay es (k + 1) ≤ B := Nat.le_trans (offs_le_span pay es (k + 1)) hB
  rw [canonOff_eq_offs]
  calc offs (fun e => alignUp (esz ps e) (storageAl ps)) es k + esz ps (es.getD k [])
      ≤ sz.stride * k + sz.size + offs pay es (k + 1) :=        -- `elemSize_bound` for every element, summed up by `offs_end_le`
        offs_end_le _ (esz ps) pay sz.stride sz.size es
          (fun e he => elemSize_bound ps fs (elemCounts e) hl.wf hl.ne (hm e he) hvo) k hk
    _ ≤ sz.stride * k + sz.size + B := Nat.add_le_add_left hpay _
    _ ≤ units (needed N B sz) (storageAl ps) * storageAl ps :=  -- `k < N`: what `calculate_needed_memory_size` asks for
        stride_mul_add_le_units (storageAl ps) N B k sz (storage_pos hl) (elemSize_size_le ps fs) (Nat.lt_of_lt_of_le hk hN)

end Cntgs
