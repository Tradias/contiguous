/-
Refinement of the operations on one vector to a plain sequence of elements (C01 and its corollaries C02, C06, C10, C16, C18).

Both locators keep the same picture: element `k` starts where the *slots* of the elements in front of it end, a slot being the
stride (stride locator) or the element's size rounded up to the storage alignment (offset table).  `SlotsOK` says that the slot
widths suit a sequence; `Canon` states the picture in terms of `Vec.size`, `Vec.addr`, `Vec.dataEnd`, the block contents and the
poison flag only; every operation is shown once to keep it (`Canon.step`, `Canon.history`), erase through the picture `Erasing` of
its middle.  `VarInv` and `FixInv`, in which the properties are stated, are `Canon` together with the locator (`VarInv.canon`,
`Canon.toVar`, `FixInv.canon`, `Canon.toFix`), so each step and history theorem about them is an instance (`VarInv.step`).
-/
import Cntgs.MemProofs
import Cntgs.LayoutProofs
import Cntgs.FrameProofs
namespace Cntgs

/-- well-formed element for a list: one value list per parameter, a single object for plain parameters -/
def EOK (ps : List Param) (e : Elem) : Prop := CountsOK ps (elemCounts e)

/-- byte size of an element that starts at a storage-aligned address -/
def esz (ps : List Param) (e : Elem) : Nat := goEnd ps (elemCounts e) 0

structure ListOK (ps : List Param) : Prop where
  wf : ∀ p ∈ ps, WfParam p
  ne : ps ≠ []

theorem storage_pos {ps : List Param} (h : ListOK ps) : 0 < storageAl ps := (storageAl_pow2 ps h.wf h.ne).pos

theorem placeEnd_aligned {ps : List Param} (h : ListOK ps) (e : Elem) (he : EOK ps e) (o : Nat) (ho : storageAl ps ∣ o) :
    placeEnd ps (elemCounts e) o = o + esz ps e := by
  rw [placeEnd_eq_goEnd ps _ o h.wf h.ne he ho]
  have := goEnd_shift ps (elemCounts e) 0 o h.wf (fun p hp => Nat.dvd_trans (al_dvd_storageAl ps h.wf p hp) ho)
  simpa [esz] using this

theorem alignFirst_elem_end {ps : List Param} (h : ListOK ps) (e : Elem) (he : EOK ps e) (o : Nat) (ho : storageAl ps ∣ o) :
    alignFirst ps (o + esz ps e) = o + alignUp (esz ps e) (storageAl ps) := by
  have h1 := alignFirst_end ps (elemCounts e) o h.wf h.ne he ho
  rw [← placeEnd_eq_goEnd ps _ o h.wf h.ne he ho, placeEnd_aligned h e he o ho] at h1
  rw [h1, alignUp_add_of_dvd _ _ _ (storage_pos h) ho]

/-- all elements are well-formed and occupy at least one byte -/
def ElemsOK (ps : List Param) (es : List Elem) : Prop := ∀ e ∈ es, EOK ps e ∧ 0 < esz ps e

theorem ElemsOK.append {ps : List Param} {as bs : List Elem} (ha : ElemsOK ps as) (hb : ElemsOK ps bs) : ElemsOK ps (as ++ bs) :=
  fun x hx => (List.mem_append.mp hx).elim (ha x) (hb x)

theorem ElemsOK.sub {ps : List Param} {as bs : List Elem} (h : ElemsOK ps as) (hs : ∀ x ∈ bs, x ∈ as) : ElemsOK ps bs :=
  fun x hx => h x (hs x hx)

theorem eok_length {ps : List Param} {e : Elem} (h : EOK ps e) : e.length = ps.length :=
  (List.length_map _).symm.trans (CountsOK.length h)

theorem esz_congr (ps : List Param) (a b : Elem) (h : elemCounts a = elemCounts b) : esz ps a = esz ps b := by
  simp [esz, h]

theorem elemsOK_map (ps : List Param) (f : Elem → Elem) (es : List Elem) (hf : ∀ e ∈ es, elemCounts (f e) = elemCounts e)
    (h : ElemsOK ps es) : ElemsOK ps (es.map f) := by
  intro e' he'
  obtain ⟨e, he, rfl⟩ := List.mem_map.mp he'
  obtain ⟨h1, h2⟩ := h e he
  refine ⟨?_, by rw [esz_congr ps _ _ (hf e he)]; exact h2⟩
  unfold EOK at h1 ⊢
  rw [hf e he]; exact h1

theorem getD_append_right (as bs : List Elem) (k : Nat) : (as ++ bs).getD (as.length + k) [] = bs.getD k [] := by
  simp [List.getD_eq_getElem?_getD, List.getElem?_append_right]

theorem getD_mem (es : List Elem) (k : Nat) (hk : k < es.length) : es.getD k [] ∈ es := by
  rw [List.getD_eq_getElem?_getD, List.getElem?_eq_getElem hk]; exact List.getElem_mem hk

theorem getD_last_mem (es : List Elem) (hne : es ≠ []) : es.getD (es.length - 1) [] ∈ es :=
  getD_mem es _ (Nat.sub_lt (List.length_pos_iff.mpr hne) Nat.one_pos)

/-- the operations of C01 on one vector -/
inductive VOp
  | emplace (e : Elem) | pop | erase (i : Nat) | eraseRange (i j : Nat) | clear | reserve (n b : Nat)
  deriving Repr

def VOp.apply (junk : Nat → Nat) (v : Vec) : VOp → Vec
  | .emplace e => v.emplaceBack e
  | .pop => v.popBack
  | .erase i => v.erase i
  | .eraseRange i j => v.eraseRange i j
  | .clear => v.clear
  | .reserve n b => v.reserve n b junk

/-- the same operations on an ordinary sequence of tuples -/
def VOp.spec (es : List Elem) : VOp → List Elem
  | .emplace e => es ++ [e]
  | .pop => es.dropLast
  | .erase i => es.take i ++ es.drop (i + 1)
  | .eraseRange i j => es.take i ++ es.drop j
  | .clear => []
  | .reserve _ _ => es

/-- the documented preconditions as far as the bookkeeping is concerned (capacity and payload budget
    concern the size of the block: C02) -/
def VOp.Pre (ps : List Param) (es : List Elem) : VOp → Prop
  | .emplace e => EOK ps e ∧ 0 < esz ps e
  | .pop => es ≠ []
  | .erase i => i < es.length
  | .eraseRange i j => i ≤ j ∧ j ≤ es.length
  | _ => True

/-- sequences of operations that respect the preconditions at every step -/
def Valid (ps : List Param) : List Elem → List VOp → Prop
  | _, [] => True
  | es, op :: ops => op.Pre ps es ∧ Valid ps (op.spec es) ops

theorem split_range (es : List Elem) (i j : Nat) (hij : i ≤ j) (hj : j ≤ es.length) :
    es = es.take i ++ (es.drop i).take (j - i) ++ es.drop j ∧ (es.take i).length = i ∧ ((es.drop i).take (j - i)).length = j - i := by
  refine ⟨?_, List.length_take_of_le (Nat.le_trans hij hj), List.length_take_of_le ?_⟩
  · rw [← Nat.add_sub_cancel' hij, ← List.drop_drop, Nat.add_sub_cancel_left, List.append_assoc, List.take_append_drop,
      List.take_append_drop]
  · rw [List.length_drop]; exact Nat.sub_le_sub_right hj i

/-- total width of the slots of `es` -/
def span (w : Elem → Nat) (es : List Elem) : Nat := (es.map w).sum
/-- start of the `k`-th slot -/
def offs (w : Elem → Nat) (es : List Elem) (k : Nat) : Nat := span w (es.take k)

theorem span_append (w : Elem → Nat) (as bs : List Elem) : span w (as ++ bs) = span w as + span w bs := by
  simp [span, List.sum_append]

theorem span_map {w : Elem → Nat} {f : Elem → Elem} (es : List Elem) (hf : ∀ e ∈ es, w (f e) = w e) : span w (es.map f) = span w es := by
  unfold span
  rw [List.map_map]
  exact congrArg List.sum (List.map_congr_left hf)

theorem offs_zero (w : Elem → Nat) (es : List Elem) : offs w es 0 = 0 := by simp [offs, span]

theorem offs_length (w : Elem → Nat) (es : List Elem) : offs w es es.length = span w es := by simp [offs]

theorem offs_succ (w : Elem → Nat) (es : List Elem) (k : Nat) (hk : k < es.length) :
    offs w es (k + 1) = offs w es k + w (es.getD k []) := by
  simp only [offs, List.take_succ_eq_append_getElem hk, span_append, List.getD_eq_getElem?_getD, List.getElem?_eq_getElem hk]
  simp [span]

theorem offs_last (w : Elem → Nat) (es : List Elem) (hne : es ≠ []) :
    span w es = offs w es (es.length - 1) + w (es.getD (es.length - 1) []) := by
  have hl : 0 < es.length := List.length_pos_iff.mpr hne
  rw [← offs_succ w es (es.length - 1) (Nat.sub_lt hl Nat.one_pos), Nat.sub_add_cancel hl, offs_length]

theorem offs_append_left (w : Elem → Nat) (as bs : List Elem) (k : Nat) (hk : k ≤ as.length) :
    offs w (as ++ bs) k = offs w as k := by
  simp only [offs, List.take_append_of_le_length hk]

theorem offs_append_right (w : Elem → Nat) (as bs : List Elem) (k : Nat) :
    offs w (as ++ bs) (as.length + k) = span w as + offs w bs k := by
  simp only [offs, List.take_length_add_append, span_append]

theorem offs_le_span (w : Elem → Nat) (es : List Elem) (k : Nat) : offs w es k ≤ span w es := by
  have := span_append w (es.take k) (es.drop k)
  rw [List.take_append_drop] at this
  exact this ▸ Nat.le_add_right _ _

theorem offs_map {w : Elem → Nat} {f : Elem → Elem} (es : List Elem) (hf : ∀ e ∈ es, w (f e) = w e) (k : Nat) :
    offs w (es.map f) k = offs w es k := by
  unfold offs
  rw [← List.map_take]
  exact span_map _ (fun e he => hf e (List.mem_of_mem_take he))

theorem offs_dvd {S : Nat} (w : Elem → Nat) (hw : ∀ e, S ∣ w e) (es : List Elem) (k : Nat) : S ∣ offs w es k := by
  unfold offs span
  generalize es.take k = l
  induction l with
  | nil => simp
  | cons a as ih => simp only [List.map_cons, List.sum_cons]; exact Nat.dvd_add (hw a) ih

/-- the record of element `k` when element `q` occupies a slot of width `w (es[q])` -/
def slotRec (ps : List Param) (w : Elem → Nat) (es : List Elem) (k : Nat) : Rec :=
  ⟨offs w es k, esz ps (es.getD k []), es.getD k []⟩

theorem slotRec_append_left (ps : List Param) (w : Elem → Nat) (as bs : List Elem) (k : Nat) (hk : k < as.length) :
    slotRec ps w (as ++ bs) k = slotRec ps w as k := by
  simp only [slotRec, offs_append_left w as bs k (Nat.le_of_lt hk), List.getD_eq_getElem?_getD, List.getElem?_append_left hk]

theorem slotRec_append_right (ps : List Param) (w : Elem → Nat) (as bs : List Elem) (k : Nat) :
    slotRec ps w (as ++ bs) (as.length + k) = { slotRec ps w bs k with off := span w as + (slotRec ps w bs k).off } := by
  simp only [slotRec, offs_append_right, getD_append_right]

theorem slotRec_cut (ps : List Param) (w : Elem → Nat) (A M B : List Elem) (k : Nat) :
    slotRec ps w (A ++ M ++ B) (A.length + k + M.length) =
      { slotRec ps w (A ++ B) (A.length + k) with off := (slotRec ps w (A ++ B) (A.length + k)).off + span w M } := by
  have e := slotRec_append_right ps w (A ++ M) B k
  rw [List.length_append] at e
  rw [Nat.add_right_comm, e, slotRec_append_right, span_append, Nat.add_right_comm]

/-- slots of width `w` suit the sequence `es`: the elements are well formed, not empty and no longer than their slots, and
    every slot is a multiple of the storage alignment -/
structure SlotsOK (ps : List Param) (w : Elem → Nat) (es : List Elem) : Prop where
  lok : ListOK ps
  eok : ElemsOK ps es
  slot_dvd : ∀ e, storageAl ps ∣ w e
  fits : ∀ e ∈ es, esz ps e ≤ w e

theorem SlotsOK.sub {ps : List Param} {w : Elem → Nat} {as bs : List Elem} (h : SlotsOK ps w as) (hs : ∀ x ∈ bs, x ∈ as) :
    SlotsOK ps w bs :=
  ⟨h.lok, h.eok.sub hs, h.slot_dvd, fun x hx => h.fits x (hs x hx)⟩

theorem SlotsOK.ordered {ps : List Param} {w : Elem → Nat} {es : List Elem} (h : SlotsOK ps w es) :
    Ordered es.length (slotRec ps w es) := by
  constructor
  · intro k hk; exact (h.eok _ (getD_mem es k hk)).2
  · intro k hk
    have hk' : k < es.length := Nat.lt_of_succ_lt hk
    rw [slotRec, slotRec, offs_succ w es k hk']
    exact Nat.add_le_add_left (h.fits _ (getD_mem es k hk')) _

/-- end of the last element (0 for an empty vector) -/
def rawEnd (ps : List Param) (w : Elem → Nat) (es : List Elem) : Nat :=
  if es = [] then 0 else offs w es (es.length - 1) + esz ps (es.getD (es.length - 1) [])

theorem rawEnd_append (ps : List Param) (w : Elem → Nat) (as bs : List Elem) (hb : bs ≠ []) :
    rawEnd ps w (as ++ bs) = span w as + rawEnd ps w bs := by
  have hl : (as ++ bs).length - 1 = as.length + (bs.length - 1) := by
    rw [List.length_append, Nat.add_sub_assoc (List.length_pos_iff.mpr hb)]
  simp only [rawEnd, hb, List.append_eq_nil_iff, and_false, if_false, hl, offs_append_right, getD_append_right, Nat.add_assoc]

theorem SlotsOK.rawEnd_le_span {ps : List Param} {w : Elem → Nat} {es : List Elem} (h : SlotsOK ps w es) :
    rawEnd ps w es ≤ span w es := by
  unfold rawEnd
  split
  · exact Nat.zero_le _
  · rename_i hne
    rw [offs_last w es hne]
    exact Nat.add_le_add_left (h.fits _ (getD_last_mem es hne)) _

theorem SlotsOK.le_rawEnd {ps : List Param} {w : Elem → Nat} {es : List Elem} (hs : SlotsOK ps w es) (k : Nat) (hk : k < es.length) :
    (slotRec ps w es k).off + (slotRec ps w es k).sz ≤ rawEnd ps w es := by
  rw [rawEnd, if_neg (fun h => by rw [h] at hk; exact Nat.not_lt_zero _ hk)]
  rcases Nat.lt_or_eq_of_le (Nat.le_sub_one_of_lt hk) with h | h
  · exact Nat.le_trans (hs.ordered.mono k _ h (Nat.sub_lt (Nat.zero_lt_of_lt hk) Nat.one_pos))
      (Nat.le_add_right _ _)
  · rw [h]; exact Nat.le_refl _

/-- bytes from the start of an element to the start of the next: the stride, or the size rounded up to the storage alignment -/
def Vec.slot (v : Vec) (e : Elem) : Nat :=
  if v.fixedLoc then v.loc.stride else alignUp (esz v.ps e) (storageAl v.ps)

theorem slot_congr {v w : Vec} (hps : w.ps = v.ps) (hst : w.loc.stride = v.loc.stride) : w.slot = v.slot := by
  funext e; unfold Vec.slot Vec.fixedLoc; rw [hps, hst]

theorem slot_of_fixed {v : Vec} (hf : v.fixedLoc = true) (e : Elem) : v.slot e = v.loc.stride := by simp [Vec.slot, hf]

theorem slot_of_var {v : Vec} (hf : v.fixedLoc = false) (e : Elem) : v.slot e = alignUp (esz v.ps e) (storageAl v.ps) := by
  simp [Vec.slot, hf]

theorem span_slot_fixed {v : Vec} (hf : v.fixedLoc = true) (es : List Elem) : span v.slot es = v.loc.stride * es.length := by
  simp [span, funext (slot_of_fixed hf), List.map_const', List.sum_replicate_nat, Nat.mul_comm]

/-- the vector `v` holds the sequence `es` in canonical layout, whichever locator it has: element `k` starts where the
    slots of the elements in front of it end.  `data_end()` is the end of the last element (after `emplace_back` on the offset
    table, and when a memmove has brought that end forward) or the end of its slot (stride locator; after an erase, when
    `resize` reads the start of the first element erased). -/
structure Canon (v : Vec) (es : List Elem) : Prop extends SlotsOK v.ps v.slot es where
  size_eq : v.size = es.length
  addr_eq : ∀ k, k < es.length → v.addr k = offs v.slot es k
  end_eq : v.dataEnd = rawEnd v.ps v.slot es ∨ v.dataEnd = span v.slot es
  mem_eq : Holds v.mem es.length (slotRec v.ps v.slot es)
  clean : v.poison = false

theorem Canon.of_frame {v u : Vec} {es : List Elem} (hps : u.ps = v.ps) (hst : u.loc.stride = v.loc.stride)
    (hs : SlotsOK v.ps v.slot es) (size_eq : u.size = es.length)
    (addr_eq : ∀ k, k < es.length → u.addr k = offs v.slot es k)
    (end_eq : u.dataEnd = rawEnd v.ps v.slot es ∨ u.dataEnd = span v.slot es)
    (mem_eq : Holds u.mem es.length (slotRec v.ps v.slot es)) (clean : u.poison = false) : Canon u es := by
  rw [← hps] at hs end_eq mem_eq
  rw [← slot_congr hps hst] at hs addr_eq end_eq mem_eq
  exact ⟨hs, size_eq, addr_eq, end_eq, mem_eq, clean⟩

/-- the canonical picture reads a vector through its parameter list, the stride, `size()`, the element addresses, `data_end()`,
    the block contents and the poison flag, and through nothing else -/
theorem Canon.of_obs {v u : Vec} {es : List Elem} (h : Canon v es) (hps : u.ps = v.ps) (hst : u.loc.stride = v.loc.stride)
    (hsize : u.size = v.size) (haddr : ∀ k, k < v.size → u.addr k = v.addr k) (hend : u.dataEnd = v.dataEnd)
    (hmem : u.mem = v.mem) (hpo : u.poison = v.poison) : Canon u es :=
  Canon.of_frame hps hst h.toSlotsOK (hsize.trans h.size_eq)
    (fun k hk => (haddr k (h.size_eq ▸ hk)).trans (h.addr_eq k hk)) (hend ▸ h.end_eq) (hmem ▸ h.mem_eq) (hpo.trans h.clean)

theorem Canon.empty {v : Vec} (lok : ListOK v.ps) (hdvd : ∀ e, storageAl v.ps ∣ v.slot e) (hsz : v.size = 0) (hend : v.dataEnd = 0)
    (hmem : v.mem = []) (hpo : v.poison = false) : Canon v [] :=
  ⟨⟨lok, fun _ h => absurd h (by simp), hdvd, fun _ h => absurd h (by simp)⟩, hsz, fun k hk => absurd hk (by simp), Or.inl hend,
    fun x => by simp [hmem], hpo⟩

theorem Canon.abs_eq {v : Vec} {es : List Elem} (h : Canon v es) : v.abs = es.map some := by
  unfold Vec.abs
  rw [h.size_eq]
  apply List.ext_getElem (by simp)
  intro i h1 _
  have hi : i < es.length := by simpa using h1
  simp only [List.getElem_map, List.getElem_range, Vec.get]
  rw [h.addr_eq i hi]
  exact (read_holds h.mem_eq h.ordered i hi).trans (by simp [slotRec, List.getD_eq_getElem?_getD, List.getElem?_eq_getElem hi])

theorem Canon.inside {v : Vec} {es : List Elem} (h : Canon v es) :
    (∀ r ∈ v.mem, r.off + r.sz ≤ span v.slot es) ∧ v.dataEnd ≤ span v.slot es := by
  constructor
  · intro r hr
    obtain ⟨k, hk, rfl⟩ := (h.mem_eq r).mp hr
    exact Nat.le_trans (h.le_rawEnd k hk) h.rawEnd_le_span
  · rcases h.end_eq with hl | hl
    · rw [hl]; exact h.rawEnd_le_span
    · exact Nat.le_of_eq hl

theorem Canon.nextStart_eq {v : Vec} {es : List Elem} (h : Canon v es) : v.nextStart = span v.slot es := by
  cases hf : v.fixedLoc with
  | true =>
    rw [span_slot_fixed hf, ← h.size_eq]
    simp [Vec.nextStart, Vec.dataEnd, Vec.size, hf]
  | false =>
    have hnx : v.nextStart = alignFirst v.ps v.dataEnd := by simp [Vec.nextStart, hf]
    have hsd := offs_dvd v.slot h.slot_dvd es
    rw [hnx]
    rcases h.end_eq with hl | hl
    · rw [hl]; unfold rawEnd
      split
      · rename_i hes; subst hes
        exact alignFirst_of_dvd v.ps 0 h.lok.wf h.lok.ne (Nat.dvd_zero _)
      · rename_i hne
        rw [alignFirst_elem_end h.lok _ (h.eok _ (getD_last_mem es hne)).1 _ (hsd _),
          ← slot_of_var hf, ← offs_last _ _ hne]
    · rw [hl]; exact alignFirst_of_dvd v.ps _ h.lok.wf h.lok.ne (offs_length v.slot es ▸ hsd es.length)

theorem Canon.emplaceBack {v : Vec} {es : List Elem} (h : Canon v es) (e : Elem) (he : EOK v.ps e) (hsz : 0 < esz v.ps e)
    (hfit : esz v.ps e ≤ v.slot e) : Canon (v.emplaceBack e) (es ++ [e]) := by
  obtain ⟨osz, oaddr, oend, omem, opo⟩ := emplaceBack_obs v e
  have hsd : storageAl v.ps ∣ span v.slot es := offs_length v.slot es ▸ offs_dvd v.slot h.slot_dvd es es.length
  rw [h.nextStart_eq, placeEnd_aligned h.lok e he _ hsd] at oend omem opo
  rw [Nat.add_sub_cancel_left] at omem opo
  have hlen : (es ++ [e]).length = es.length + 1 := List.length_append
  have hoffs : offs v.slot (es ++ [e]) es.length = span v.slot es := by rw [offs_append_left _ _ _ _ (Nat.le_refl _), offs_length]
  have hlast : slotRec v.ps v.slot (es ++ [e]) es.length = ⟨span v.slot es, esz v.ps e, e⟩ := by
    rw [slotRec, hoffs, show (es ++ [e]).getD es.length [] = e from getD_append_right es [e] 0]
  obtain ⟨hfree, hheld⟩ := write_holds h.mem_eq ⟨span v.slot es, esz v.ps e, e⟩
    (fun k hk => h.inside.1 _ ((h.mem_eq _).mpr ⟨k, hk, rfl⟩))
  -- the slots suit `es ++ [e]`; then `Canon` field by field, each read off the matching conjunct of `emplaceBack_obs`
  have hs : SlotsOK v.ps v.slot (es ++ [e]) :=
    ⟨h.lok, h.eok.append (fun x hx => by rw [List.mem_singleton.mp hx]; exact ⟨he, hsz⟩), h.slot_dvd,
      fun x hx => (List.mem_append.mp hx).elim (h.fits x) (fun hx => by rw [List.mem_singleton.mp hx]; exact hfit)⟩
  refine Canon.of_frame (emplaceBack_frame v e).ps (emplaceBack_frame v e).stride hs
    (size_eq := by rw [osz, h.size_eq, hlen]) (addr_eq := ?addr) (end_eq := ?dataEnd) (mem_eq := ?mem)
    (clean := by rw [opo, h.clean, hfree]; rfl)
  case addr =>
    -- the new element starts at `nextStart = span es`, the others stay
    intro k hk
    rw [oaddr, h.size_eq, h.nextStart_eq]
    by_cases hkn : k = es.length
    · rw [if_pos hkn, hkn, hoffs]
    · rw [if_neg hkn, hlen] at *
      have hk' : k < es.length := Nat.lt_of_le_of_ne (Nat.le_of_lt_succ hk) hkn
      rw [h.addr_eq k hk', offs_append_left _ _ _ _ (Nat.le_of_lt hk')]
  case dataEnd =>
    -- stride locator: the end of the new slot; offset table: the end of the new element
    rw [oend]
    cases hf : v.fixedLoc with
    | true => right; simp [span, slot_of_fixed hf]
    | false => left; rw [rawEnd_append _ _ _ _ (List.cons_ne_nil e [])]; simp [rawEnd, offs_zero]
  case mem =>
    rw [omem, hlen]
    refine hheld.congr (fun k hk => ?_)
    split
    · rename_i hkn; rw [hkn, hlast]
    · rename_i hkn
      exact (slotRec_append_left _ _ _ _ _ (Nat.lt_of_le_of_ne (Nat.le_of_lt_succ hk) hkn)).symm

theorem Canon.map_values {v : Vec} {es : List Elem} (h : Canon v es) (f : Elem → Elem)
    (hf : ∀ e ∈ es, elemCounts (f e) = elemCounts e) :
    Canon { v with mem := v.mem.map (fun r => { r with e := f r.e }) } (es.map f) := by
  have hesz : ∀ e ∈ es, esz v.ps (f e) = esz v.ps e := fun e he => esz_congr v.ps _ _ (hf e he)
  have hslot : ∀ e ∈ es, v.slot (f e) = v.slot e := fun e he => by unfold Vec.slot; rw [hesz e he]
  have hget : ∀ k, k < es.length → (es.map f).getD k [] = f (es.getD k []) := fun k hk => by
    simp [List.getD_eq_getElem?_getD, List.getElem?_eq_getElem hk]
  refine Canon.of_frame (v := v) rfl rfl ⟨h.lok, elemsOK_map v.ps f es hf h.eok, h.slot_dvd, ?_⟩
    (by rw [List.length_map]; exact h.size_eq) (fun k hk => by rw [offs_map es hslot]; exact h.addr_eq k (by simpa using hk))
    ?_ ?_ h.clean
  · intro e' he'
    obtain ⟨e, he, rfl⟩ := List.mem_map.mp he'
    rw [hesz e he, hslot e he]; exact h.fits e he
  · have hraw : rawEnd v.ps v.slot (es.map f) = rawEnd v.ps v.slot es := by
      unfold rawEnd
      by_cases hes : es = []
      · rw [hes]; rfl
      · have hl : 0 < es.length := List.length_pos_iff.mpr hes
        rw [if_neg hes, if_neg (by simpa using hes), offs_map es hslot, List.length_map, hget _ (by omega),
          hesz _ (getD_last_mem es hes)]
    rw [hraw, span_map es hslot]
    exact h.end_eq
  · rw [List.length_map]
    refine holds_map v.mem es.length _ _ _ h.mem_eq (fun k hk => ?_)
    simp only [slotRec, offs_map es hslot, hget k hk, hesz _ (getD_mem es k hk)]

theorem Canon.reserve {v : Vec} {es : List Elem} (h : Canon v es) (n b : Nat) (junk : Nat → Nat) :
    Canon (v.reserve n b junk) es := by
  obtain ⟨osz, oaddr, oend, omem, opo⟩ := reserve_obs v n b junk
  exact h.of_obs (reserve_frame v n b junk).1 (reserve_frame v n b junk).2.2.1 osz oaddr oend omem opo

/-- the `resize` that ends an erase takes `data_end()` from table slot `size()`, unless nothing was erased -/
theorem Canon.resized {v u : Vec} {es : List Elem} (hfr : SameFrame v u) (hs : SlotsOK v.ps v.slot es) (hle : es.length ≤ u.size)
    (haddr : ∀ k, k < es.length → u.addr k = offs v.slot es k)
    (hend : let x := if es.length < u.size then u.addr es.length else u.dataEnd
      x = rawEnd v.ps v.slot es ∨ x = span v.slot es)
    (hmem : Holds u.mem es.length (slotRec v.ps v.slot es)) (hpo : u.poison = false) : Canon (u.resized es.length) es := by
  obtain ⟨rsz, rend⟩ := resized_obs u es.length hle
  refine Canon.of_frame (hfr.trans (resized_frame u _)).ps (hfr.trans (resized_frame u _)).stride hs rsz
    (fun k hk => (resized_addr u _ k).trans (haddr k hk)) ?_ hmem hpo
  rw [rend]
  split
  · rename_i h0; rw [List.length_eq_zero_iff.mp h0]; exact Or.inl rfl
  · exact hend

theorem Canon.eraseRange_empty {v : Vec} {es : List Elem} (h : Canon v es) (i : Nat) : Canon (v.eraseRange i i) es := by
  rw [eraseRange_eq, if_neg (fun hh => hh.2 rfl), Nat.sub_self, Nat.sub_zero, h.size_eq]
  refine Canon.resized (withMem_frame v _) h.toSlotsOK (Nat.le_of_eq h.size_eq.symm) h.addr_eq ?_
    (by simpa [Vec.withMem, Vec.destructRange] using h.mem_eq) h.clean
  rw [Vec.withMem_size, h.size_eq, if_neg (Nat.lt_irrefl _)]
  exact h.end_eq

/-- the picture between the destruction of the erased elements and the `resize` that ends `erase(first, last)`, and the
    invariant of the element-wise relocation loop: `new` is the sequence that will remain, `w` the vector at work (it has
    the frame of `v`, in whose terms the layout is stated); the first `c` elements of `new` are in their places, the others
    still lie `D` bytes behind theirs, `d` table slots further back -/
structure Erasing (v w : Vec) (new : List Elem) (c d D : Nat) : Prop extends SlotsOK v.ps v.slot new where
  frame : SameFrame v w
  pos : 0 < d
  size_eq : w.size = new.length + d
  front : ∀ q, q ≤ c → w.addr q = offs v.slot new q
  back : ∀ q, c ≤ q → q < new.length → w.addr (q + d) = offs v.slot new q + D
  mem_eq : Holds w.mem new.length (pushed (slotRec v.ps v.slot new) c D)
  clean : w.poison = false

theorem Canon.erasing {v : Vec} (A M B : List Elem) (h : Canon v (A ++ M ++ B)) (hd : 0 < M.length) :
    Erasing v (v.withMem (v.destructRange A.length (A.length + M.length))) (A ++ B) A.length M.length (span v.slot M) := by
  have hsub : ∀ x ∈ A ++ B, x ∈ A ++ M ++ B := fun x hx =>
    (List.mem_append.mp hx).elim (fun hx => List.mem_append_left _ (List.mem_append_left _ hx)) (List.mem_append_right _)
  have hlen : (A ++ M ++ B).length = (A ++ B).length + M.length := by
    simp only [List.length_append]; exact Nat.add_right_comm _ _ _
  have hle : A.length ≤ (A ++ B).length := List.length_append ▸ Nat.le_add_right _ _
  -- indices up to the end of `M` are indices of `A ++ M ++ B`
  have hAM : ∀ k, k < A.length + M.length → k < (A ++ M ++ B).length := fun k hk =>
    Nat.lt_of_lt_of_le hk (by rw [List.length_append, List.length_append]; exact Nat.le_add_right _ _)
  refine { toSlotsOK := h.toSlotsOK.sub hsub, frame := withMem_frame v _, pos := hd, size_eq := h.size_eq.trans hlen,
           front := ?front, back := ?back, mem_eq := ?mem, clean := h.clean }
  case front =>
    -- in front of the gap (and at its start) nothing has changed
    intro q hq
    exact (h.addr_eq q (hAM q (Nat.lt_of_le_of_lt hq (Nat.lt_add_of_pos_right hd)))).trans (by
      rw [List.append_assoc, offs_append_left _ _ _ _ hq, offs_append_left _ _ _ _ hq])
  case back =>
    -- element `A.length + k` of `A ++ B` is element `A.length + k + M.length` of `A ++ M ++ B`: `slotRec_cut`
    intro q h1 h2
    obtain ⟨k, rfl⟩ := Nat.exists_eq_add_of_le h1
    exact (h.addr_eq _ (hlen ▸ Nat.add_lt_add_right h2 _)).trans (congrArg Rec.off (slotRec_cut v.ps v.slot A M B k))
  case mem =>
    have hdes := destructRange_holds (hlen ▸ h.mem_eq) (hlen ▸ h.ordered) A.length hle (fun k _ hk => h.addr_eq k (hAM k hk))
    refine hdes.congr (fun q _ => ?_)
    unfold pushed
    split
    · rename_i hq
      rw [List.append_assoc, slotRec_append_left _ _ _ _ _ hq, slotRec_append_left _ _ _ _ _ hq]
    · rename_i hq
      obtain ⟨k, rfl⟩ := Nat.exists_eq_add_of_le (Nat.le_of_not_lt hq)
      exact slotRec_cut v.ps v.slot A M B k

theorem Canon.end_cut {v : Vec} (A M B : List Elem) (h : Canon v (A ++ M ++ B)) (hB : B ≠ []) :
    v.dataEnd = rawEnd v.ps v.slot (A ++ B) + span v.slot M ∨ v.dataEnd = span v.slot (A ++ B) + span v.slot M := by
  have hraw : rawEnd v.ps v.slot (A ++ M ++ B) = rawEnd v.ps v.slot (A ++ B) + span v.slot M := by
    rw [rawEnd_append _ _ _ _ hB, rawEnd_append _ _ _ _ hB, span_append, Nat.add_right_comm]
  have hspan : span v.slot (A ++ M ++ B) = span v.slot (A ++ B) + span v.slot M := by
    rw [span_append, span_append, span_append, Nat.add_right_comm]
  exact h.end_eq.imp (fun hl => hl.trans hraw) (fun hl => hl.trans hspan)

theorem Erasing.finish {v w : Vec} {new : List Elem} {c d D : Nat} (h : Erasing v w new c d D) (hc : c = new.length) :
    Canon (w.resized new.length) new := by
  subst hc
  have hlt : new.length < w.size := by rw [h.size_eq]; exact Nat.lt_add_of_pos_right h.pos
  exact Canon.resized h.frame h.toSlotsOK (Nat.le_of_lt hlt) (fun k hk => h.front k (Nat.le_of_lt hk))
    (Or.inr (by rw [if_pos hlt, h.front _ (Nat.le_refl _), offs_length])) (h.mem_eq.congr (fun q hq => pushed_lt _ hq)) h.clean

theorem Erasing.memmove {v w : Vec} {new : List Elem} {c d D : Nat} (h : Erasing v w new c d D) (hc : c < new.length)
    (ht : w.trivialReloc = true)
    (hend : w.dataEnd = rawEnd v.ps v.slot new + D ∨ w.dataEnd = span v.slot new + D) :
    Canon ((w.moveForward (c + d) c).resized new.length) new := by
  obtain ⟨osz, oa1, oa2, oan, omem, opo⟩ := moveForward_trivial_obs w c d new.length ht h.size_eq hc h.pos
  rw [h.back c (Nat.le_refl c) hc, h.front c (Nat.le_refl c)] at oa2 oan omem opo
  rw [Nat.add_sub_cancel_left] at oa2 oan
  have hfin : rawEnd v.ps v.slot new + D ≤ w.dataEnd := by
    rcases hend with hl | hl
    · exact Nat.le_of_eq hl.symm
    · rw [hl]; exact Nat.add_le_add_right h.rawEnd_le_span _
  obtain ⟨hfree, hheld⟩ := move_pushed h.ordered c D w.dataEnd hc h.mem_eq (fun k hk => by
    rw [Nat.add_right_comm]
    exact Nat.le_trans (Nat.add_le_add_right (h.le_rawEnd k hk) D) hfin)
  have hlt : new.length < (w.moveForward (c + d) c).size := by rw [osz, h.size_eq]; exact Nat.lt_add_of_pos_right h.pos
  refine Canon.resized (h.frame.trans (moveForward_frame w _ _)) h.toSlotsOK (Nat.le_of_lt hlt) (haddr := ?addr) (hend := ?dataEnd)
    (hmem := by rw [omem]; exact hheld) (hpo := by rw [opo, h.clean, Bool.false_or]; exact hfree)
  case addr =>
    -- in front of `c` untouched; from `c` on the table entries have come `d` slots and `D` bytes forward
    intro k hk
    by_cases hkc : k < c
    · exact (oa1 k hkc).trans (h.front k (Nat.le_of_lt hkc))
    · rw [oa2 k (Nat.le_of_not_lt hkc) hk, h.back k (Nat.le_of_not_lt hkc) hk, Nat.add_sub_cancel]
  case dataEnd =>
    -- `resize` reads slot `new.length`, into which the memmove path has put the old end minus `D`
    rw [if_pos hlt, oan]
    exact hend.imp (fun hl => by rw [hl, Nat.add_sub_cancel]) (fun hl => by rw [hl, Nat.add_sub_cancel])

/-- the next table slot receives the end of the new element's slot; on the stride locator the next address is that anyway -/
theorem relocateOne_obs {w : Vec} {ps : List Param} (hps : w.ps = ps) (hl : ListOK ps) (c src : Nat) (r : Rec)
    (hfind : w.mem.find? (fun x => x.off == w.addr src) = some r) (he : EOK ps r.e) (hsz : r.sz = esz ps r.e)
    (hal : storageAl ps ∣ w.addr c) (hhit : (w.mem.drop (w.addr src)).hits (w.addr c) r.sz = false)
    (hov : w.addr c + r.sz ≤ w.addr src) :
    let u := w.relocateOne c src
    u.size = w.size ∧ (∀ q, u.addr q = if q = c + 1 then w.addr c + w.slot r.e else w.addr q) ∧
    u.mem = (w.mem.drop (w.addr src)).write (w.addr c) r.sz r.e ∧ u.poison = w.poison := by
  subst hps
  rw [relocateOne_eq w c src r hfind (by rw [hsz]; exact placeEnd_aligned hl r.e he _ hal) hhit hov, hsz,
    alignFirst_elem_end hl r.e he _ hal]
  cases hf : isFixedOrPlain w.ps with
  | true =>
    simp only [Vec.size, Vec.addr, Vec.slot, Vec.fixedLoc, hf, if_true, true_and, and_true]
    intro q; split
    · rename_i hq; rw [hq, Nat.mul_succ]
    · rfl
  | false =>
    simp only [Vec.size, Vec.addr, Vec.slot, Vec.fixedLoc, hf, Bool.false_eq_true, if_false, Loc.setSlot, and_true,
      implies_true]

theorem Erasing.step {v w : Vec} {new : List Elem} {c d D : Nat} (h : Erasing v w new c d D) (hc : c < new.length)
    (hno : esz v.ps (new.getD c []) ≤ D) : Erasing v (w.relocateOne c (c + d)) new (c + 1) d D := by
  have ha1 : w.addr c = (slotRec v.ps v.slot new c).off := h.front c (Nat.le_refl c)
  have ha2 : w.addr (c + d) = (slotRec v.ps v.slot new c).off + D := h.back c (Nat.le_refl c) hc
  obtain ⟨hfind, hhit, hheld⟩ := relocate_pushed h.ordered c D hc h.mem_eq
  rw [← ha2] at hfind
  rw [← ha2, ← ha1] at hhit hheld
  obtain ⟨osz, oaddr, omem, opo⟩ := relocateOne_obs h.frame.ps h.lok c (c + d) _ hfind (h.eok _ (getD_mem new c hc)).1 rfl
    (ha1 ▸ offs_dvd v.slot h.slot_dvd new c) hhit (by rw [ha1, ha2]; exact Nat.add_le_add_left hno _)
  refine { toSlotsOK := h.toSlotsOK, frame := h.frame.trans (relocateOne_frame w _ _), pos := h.pos, size_eq := osz.trans h.size_eq,
           front := ?front, back := ?back, mem_eq := omem ▸ hheld, clean := opo.trans h.clean }
  case front =>
    -- slot `c + 1` is the one written: it receives the end of element `c`'s slot, which is `offs new (c + 1)`
    intro q hq
    rw [oaddr]
    split
    · rename_i hq1
      rw [hq1, ha1, slot_congr h.frame.ps h.frame.stride, offs_succ v.slot new c hc]; rfl
    · rename_i hq1
      exact h.front q (Nat.le_of_lt_succ (Nat.lt_of_le_of_ne hq hq1))
  case back =>
    -- the slots of the elements still to be moved lie behind `c + 1` (`0 < d`), so they were not written
    intro q h1 h2
    have hlt : c + 1 < q + d := Nat.lt_of_le_of_lt h1 (Nat.lt_add_of_pos_right h.pos)
    rw [oaddr, if_neg (Nat.ne_of_gt hlt)]
    exact h.back q (Nat.le_of_succ_le h1) h2

/-- the element-wise relocation loop, when no element still to be moved is longer than the bytes it travels (it would be
    constructed onto its own live source) -/
theorem Erasing.fold {v w : Vec} {new : List Elem} {c d D : Nat} (h : Erasing v w new c d D) (t : Nat)
    (hle : c + t ≤ new.length) (hno : ∀ q, c ≤ q → q < new.length → esz v.ps (new.getD q []) ≤ D) :
    Erasing v ((List.range' c t).foldl (fun (w : Vec) q => w.relocateOne q (q + d)) w) new (c + t) d D := by
  induction t generalizing c w with
  | zero => exact h
  | succ t ih =>
    have hc : c < new.length := Nat.lt_of_lt_of_le (Nat.lt_add_of_pos_right (Nat.succ_pos t)) hle
    rw [List.range'_succ, List.foldl_cons]
    rw [← Nat.succ_add_eq_add_succ c t] at hle ⊢
    exact ih (h.step hc (hno c (Nat.le_refl c) hc)) hle (fun q hq => hno q (Nat.le_of_succ_le hq))

theorem Erasing.elementwise {v w : Vec} {new : List Elem} {c d D : Nat} (h : Erasing v w new c d D)
    (ht : w.trivialReloc = false) (t : Nat) (hlen : new.length = c + t)
    (hno : ∀ q, c ≤ q → q < new.length → esz v.ps (new.getD q []) ≤ D) :
    Canon ((w.moveForward (c + d) c).resized new.length) new := by
  rw [moveForward_elementwise w c d t (hlen ▸ h.size_eq) ht]
  exact (h.fold t (Nat.le_of_eq hlen.symm) hno).finish hlen.symm

/-- **erase(first, last) refines removing a range from the sequence**, both locators, both relocation paths.  On the
    element-wise path no element behind the range may be longer than the slots erased (it would be constructed onto its own
    live source, `C06.overlap_counter_witness`); on the stride locator that never happens. -/
theorem Canon.eraseRange_gen {v : Vec} (A M B : List Elem) (h : Canon v (A ++ M ++ B))
    (hsafe : B ≠ [] → M ≠ [] → (v.trivialReloc || v.fixedLoc) = true ∨ ∀ e ∈ B, esz v.ps e ≤ span v.slot M) :
    Canon (v.eraseRange A.length (A.length + M.length)) (A ++ B) := by
  by_cases hM : M = []
  · subst hM; simpa using h.eraseRange_empty A.length
  have hd : 0 < M.length := List.length_pos_iff.mpr hM
  have he := h.erasing A M B hd
  have hlen : (A ++ B).length = A.length + B.length := List.length_append
  have hsz : v.size = (A ++ B).length + M.length := he.size_eq
  rw [eraseRange_eq, hsz, Nat.add_sub_cancel_left, Nat.add_sub_cancel]
  by_cases hB : B = []
  · subst hB
    rw [List.append_nil] at he ⊢
    rw [if_neg (fun hh => Nat.lt_irrefl _ hh.1)]
    exact he.finish rfl
  have hi : A.length < (A ++ B).length := hlen ▸ Nat.lt_add_of_pos_right (List.length_pos_iff.mpr hB)
  rw [if_pos ⟨Nat.add_lt_add_right hi _, Nat.ne_of_lt (Nat.lt_add_of_pos_right hd)⟩]
  cases ht : v.trivialReloc with
  | true => exact he.memmove hi ht (h.end_cut A M B hB)
  | false =>
    refine he.elementwise ht B.length hlen (fun q h1 h2 => ?_)
    obtain ⟨k, rfl⟩ := Nat.exists_eq_add_of_le h1
    rw [getD_append_right]
    have hk : k < B.length := Nat.lt_of_add_lt_add_left (hlen ▸ h2)
    rcases hsafe hB hM with hf | hno
    · -- a stride is at least as long as any element
      rw [ht, Bool.false_or] at hf
      rw [span_slot_fixed hf, ← slot_of_fixed hf (B.getD k [])]
      exact Nat.le_trans (h.fits _ (List.mem_append_right _ (getD_mem B k hk))) (Nat.le_mul_of_pos_right _ hd)
    · exact hno _ (getD_mem B k hk)

/-- when `erase(first, last)` may relocate its tail: on the memmove path, on the stride locator, or when no element behind
    the range is longer than the slots erased -/
def Licence (ps : List Param) (w : Elem → Nat) (free : Bool) (es : List Elem) (i j : Nat) : Prop :=
  j < es.length → i < j → free = true ∨ ∀ e ∈ es.drop j, esz ps e ≤ span w ((es.drop i).take (j - i))

theorem Canon.eraseRange {v : Vec} {es : List Elem} (h : Canon v es) (i j : Nat) (hij : i ≤ j) (hj : j ≤ es.length)
    (hsafe : Licence v.ps v.slot (v.trivialReloc || v.fixedLoc) es i j) :
    Canon (v.eraseRange i j) (es.take i ++ es.drop j) := by
  obtain ⟨he, h1, h2⟩ := split_range es i j hij hj
  -- a tail behind the range means `j < es.length`, a range that is not empty `i < j`
  have hjlt : es.drop j ≠ [] → j < es.length := fun hB => Nat.lt_of_not_le (fun hle => hB (List.drop_eq_nil_iff.mpr hle))
  have hilt : (es.drop i).take (j - i) ≠ [] → i < j := fun hM =>
    Nat.lt_of_le_of_ne hij (fun heq => hM (by rw [heq, Nat.sub_self, List.take_zero]))
  have := Canon.eraseRange_gen (es.take i) ((es.drop i).take (j - i)) (es.drop j) (he ▸ h) (fun hB hM => hsafe (hjlt hB) (hilt hM))
  rwa [h1, h2, Nat.add_sub_cancel' hij] at this

/-- erasing from `i` to the end, what `pop_back` (`i = size() - 1`) and `clear` (`i = 0`) do: there is no tail to relocate -/
theorem Canon.eraseRange_tail {v : Vec} {es : List Elem} (h : Canon v es) (i : Nat) (hi : i ≤ es.length) :
    Canon (v.eraseRange i v.size) (es.take i) := by
  have := h.eraseRange i es.length hi (Nat.le_refl _) (fun hh => absurd hh (Nat.lt_irrefl _))
  rwa [List.drop_length, List.append_nil, ← h.size_eq] at this

/-- what a step asks of its caller: the documented preconditions of the operation, for `emplace_back` an element that fits the
    slot it is given, for the erases the licence to relocate -/
def VOp.Ok (ps : List Param) (w : Elem → Nat) (free : Bool) (es : List Elem) : VOp → Prop
  | .emplace e => EOK ps e ∧ 0 < esz ps e ∧ esz ps e ≤ w e
  | .pop => es ≠ []
  | .erase i => i < es.length ∧ Licence ps w free es i (i + 1)
  | .eraseRange i j => i ≤ j ∧ j ≤ es.length ∧ Licence ps w free es i j
  | _ => True

theorem Canon.step {v : Vec} {es : List Elem} (h : Canon v es) (junk : Nat → Nat) (op : VOp)
    (hok : op.Ok v.ps v.slot (v.trivialReloc || v.fixedLoc) es) : Canon (op.apply junk v) (op.spec es) := by
  cases op with
  | emplace e => exact h.emplaceBack e hok.1 hok.2.1 hok.2.2
  | pop =>
    have := h.eraseRange_tail (es.length - 1) (Nat.sub_le _ _)
    rw [← List.dropLast_eq_take, ← h.size_eq] at this
    show Canon v.popBack es.dropLast
    rw [popBack_eq_eraseRange v (h.size_eq ▸ List.length_pos_iff.mpr hok)]; exact this
  | erase i =>
    show Canon (v.erase i) (es.take i ++ es.drop (i + 1))
    rw [erase_eq_eraseRange v i (h.size_eq ▸ hok.1) (fun r hr => by
      obtain ⟨k, hk, rfl⟩ := (h.mem_eq r).mp (mem_of_mem_destructRange hr)
      exact h.ordered.1 k hk)]
    exact h.eraseRange i (i + 1) (Nat.le_succ i) hok.1 hok.2
  | eraseRange i j => exact h.eraseRange i j hok.1 hok.2.1 hok.2.2
  | clear =>
    show Canon v.clear []
    rw [clear_eq_eraseRange v]; exact h.eraseRange_tail 0 (Nat.zero_le _)
  | reserve n b => exact h.reserve n b junk

theorem apply_frame (junk : Nat → Nat) (v : Vec) (op : VOp) (hnr : ∀ n b, op ≠ .reserve n b) : SameFrame v (op.apply junk v) := by
  cases op with
  | emplace e => exact emplaceBack_frame v e
  | pop => exact popBack_frame v
  | erase i => exact erase_frame v i
  | eraseRange i j => exact eraseRange_frame v i j
  | clear => exact clear_frame v
  | reserve n b => exact absurd rfl (hnr n b)

theorem apply_ps_stride (junk : Nat → Nat) (v : Vec) (op : VOp) :
    (op.apply junk v).ps = v.ps ∧ (op.apply junk v).loc.stride = v.loc.stride := by
  cases op with
  | reserve n b => exact ⟨(reserve_frame v n b junk).1, (reserve_frame v n b junk).2.2.1⟩
  | _ => exact ⟨(apply_frame junk v _ (fun _ _ h => VOp.noConfusion h)).ps, (apply_frame junk v _ (fun _ _ h => VOp.noConfusion h)).stride⟩

theorem history_fixedLoc (junk : Nat → Nat) (ops : List VOp) (v : Vec) :
    (ops.foldl (VOp.apply junk) v).fixedLoc = v.fixedLoc := by
  induction ops generalizing v with
  | nil => rfl
  | cons op ops ih =>
    exact (ih _).trans (fixedLoc_congr (apply_ps_stride junk v op).1)

/-- `R` is any notion of valid history whose every step is licensed -/
theorem Canon.history {v : Vec} {es : List Elem} (h : Canon v es) (junk : Nat → Nat) (R : List Elem → List VOp → Prop)
    (hR : ∀ es op ops, R es (op :: ops) → op.Ok v.ps v.slot (v.trivialReloc || v.fixedLoc) es ∧ R (op.spec es) ops)
    (ops : List VOp) (hv : R es ops) : Canon (ops.foldl (VOp.apply junk) v) (ops.foldl VOp.spec es) := by
  induction ops generalizing v es with
  | nil => exact h
  | cons op ops ih =>
    obtain ⟨hps, hst⟩ := apply_ps_stride junk v op
    refine ih (h.step junk op (hR es op ops hv).1) ?_ (hR es op ops hv).2
    rw [slot_congr hps hst]; unfold Vec.trivialReloc Vec.fixedLoc; rw [hps]
    exact hR

/-- canonical start offsets of the elements of a vector with a VaryingSize parameter -/
def canonOff (ps : List Param) : List Elem → Nat → Nat
  | [], _ => 0
  | _ :: _, 0 => 0
  | e :: es, k + 1 => alignUp (esz ps e) (storageAl ps) + canonOff ps es k

/-- start of the element that would follow `es` -/
def nextOff (ps : List Param) : List Elem → Nat
  | [] => 0
  | e :: es => alignUp (esz ps e) (storageAl ps) + nextOff ps es

/-- the record of element `k` in the canonical layout -/
def canonRec (ps : List Param) (es : List Elem) (k : Nat) : Rec :=
  ⟨canonOff ps es k, esz ps (es.getD k []), es.getD k []⟩

/-- raw end of the data: end of the last element (0 for an empty vector) -/
def rawEndOf (ps : List Param) (es : List Elem) : Nat :=
  if es = [] then 0 else canonOff ps es (es.length - 1) + esz ps (es.getD (es.length - 1) [])

theorem canonOff_eq_offs (ps : List Param) (es : List Elem) (k : Nat) :
    canonOff ps es k = offs (fun e => alignUp (esz ps e) (storageAl ps)) es k := by
  induction es generalizing k with
  | nil => simp [canonOff, offs, span]
  | cons e es ih => cases k <;> simp [canonOff, offs, span, ih]

theorem nextOff_eq_span (ps : List Param) (es : List Elem) :
    nextOff ps es = span (fun e => alignUp (esz ps e) (storageAl ps)) es := by
  induction es with
  | nil => rfl
  | cons e es ih => simp [nextOff, span, ih]

/-- offsets depend only on the elements in front (the right disjunct, here and in the next theorem, never applies) -/
theorem canonOff_append {ps : List Param} (as bs : List Elem) (k : Nat) (hk : k ≤ as.length) :
    canonOff ps (as ++ bs) k = canonOff ps as k ∨ (k = as.length ∧ canonOff ps (as ++ bs) k = nextOff ps as) :=
  Or.inl (by rw [canonOff_eq_offs, canonOff_eq_offs, offs_append_left _ _ _ _ hk])

theorem canonOff_append_ge {ps : List Param} (as bs : List Elem) (k : Nat) :
    canonOff ps (as ++ bs) (as.length + k) = nextOff ps as + canonOff ps bs k ∨ (bs = [] ∧ True) :=
  Or.inl (by rw [canonOff_eq_offs, canonOff_eq_offs, nextOff_eq_span, offs_append_right])

theorem nextOff_eq_alignUp_rawEnd {ps : List Param} (h : ListOK ps) (es : List Elem) (hne : es ≠ []) :
    nextOff ps es = alignUp (rawEndOf ps es) (storageAl ps) := by
  rw [rawEndOf, if_neg hne, canonOff_eq_offs, nextOff_eq_span, offs_last _ _ hne,
    alignUp_add_of_dvd _ _ _ (storage_pos h) (offs_dvd _ (fun _ => alignUp_dvd _ _) es _)]

/-- on the offset-table locator the canonical quantities are those of the slot picture -/
theorem var_eqs {v : Vec} (hf : v.fixedLoc = false) (es : List Elem) :
    canonOff v.ps es = offs v.slot es ∧ nextOff v.ps es = span v.slot es ∧ canonRec v.ps es = slotRec v.ps v.slot es ∧
    rawEndOf v.ps es = rawEnd v.ps v.slot es := by
  have hw : v.slot = fun e => alignUp (esz v.ps e) (storageAl v.ps) := funext (slot_of_var hf)
  have h1 : canonOff v.ps es = offs v.slot es := funext fun k => hw ▸ canonOff_eq_offs v.ps es k
  exact ⟨h1, hw ▸ nextOff_eq_span v.ps es, funext fun k => by rw [canonRec, slotRec, h1], by rw [rawEndOf, rawEnd, h1]⟩

/-- the two parts of `var_eqs` that are used on their own, by name -/
theorem nextOff_eq_span_slot {v : Vec} (hf : v.fixedLoc = false) (es : List Elem) : nextOff v.ps es = span v.slot es :=
  (var_eqs hf es).2.1

theorem canonRec_eq_slotRec {v : Vec} (hf : v.fixedLoc = false) (es : List Elem) : canonRec v.ps es = slotRec v.ps v.slot es :=
  (var_eqs hf es).2.2.1

/-- the vector `v` (offset-table locator: lists with a VaryingSize parameter) represents the element sequence `es` in canonical
    layout -/
structure VarInv (v : Vec) (es : List Elem) : Prop where
  lok : ListOK v.ps
  notFixed : v.fixedLoc = false
  eok : ElemsOK v.ps es
  size_eq : v.loc.size = es.length
  slots_eq : ∀ k, k < es.length → v.loc.slots k = canonOff v.ps es k
  mem_eq : Holds v.mem es.length (canonRec v.ps es)
  last_eq : v.loc.last = rawEndOf v.ps es ∨ (es ≠ [] ∧ v.loc.last = nextOff v.ps es)
  clean : v.poison = false

theorem VarInv.slot_ge {v : Vec} {es : List Elem} (h : VarInv v es) (e : Elem) : esz v.ps e ≤ v.slot e :=
  slot_of_var h.notFixed e ▸ alignUp_ge _ _ (storage_pos h.lok)

theorem VarInv.canon {v : Vec} {es : List Elem} (h : VarInv v es) : Canon v es := by
  obtain ⟨e1, e2, e3, e4⟩ := var_eqs h.notFixed es
  refine ⟨⟨h.lok, h.eok, fun e => slot_of_var h.notFixed e ▸ alignUp_dvd _ _, fun e _ => h.slot_ge e⟩, ?_, ?_, ?_,
    e3 ▸ h.mem_eq, h.clean⟩
  · simp [Vec.size, h.notFixed, h.size_eq]
  · intro k hk; simp [Vec.addr, h.notFixed, h.slots_eq k hk, e1]
  · rw [show v.dataEnd = v.loc.last by simp [Vec.dataEnd, h.notFixed], ← e2, ← e4]
    exact h.last_eq.imp id And.right

theorem Canon.toVar {v : Vec} {es : List Elem} (h : Canon v es) (hf : v.fixedLoc = false) : VarInv v es := by
  obtain ⟨e1, e2, e3, e4⟩ := var_eqs hf es
  refine ⟨h.lok, hf, h.eok, ?_, ?_, e3 ▸ h.mem_eq, ?_, h.clean⟩
  · simpa [Vec.size, hf] using h.size_eq
  · intro k hk; simpa [Vec.addr, hf, e1] using h.addr_eq k hk
  · rw [show v.loc.last = v.dataEnd by simp [Vec.dataEnd, hf], e2, e4]
    by_cases hes : es = []
    · subst hes; exact Or.inl (h.end_eq.elim id id)
    · exact h.end_eq.imp id (fun hl => ⟨hes, hl⟩)

/-- what `operator[]`, iteration and `get<I>` read is the represented sequence -/
theorem VarInv.abs_eq {v : Vec} {es : List Elem} (h : VarInv v es) : v.abs = es.map some := h.canon.abs_eq

theorem VarInv.step {v : Vec} {es : List Elem} (h : VarInv v es) (junk : Nat → Nat) (op : VOp)
    (hok : op.Ok v.ps v.slot (v.trivialReloc || v.fixedLoc) es) : VarInv (op.apply junk v) (op.spec es) :=
  (h.canon.step junk op hok).toVar ((fixedLoc_congr (apply_ps_stride junk v op).1).trans h.notFixed)

theorem VarInv.emplaceBack {v : Vec} {es : List Elem} (h : VarInv v es) (e : Elem) (he : EOK v.ps e) (hsz : 0 < esz v.ps e) :
    VarInv (v.emplaceBack e) (es ++ [e]) :=
  h.step (fun _ => 0) (.emplace e) ⟨he, hsz, h.slot_ge e⟩

/-- `reserve` keeps the represented sequence (it relocates the block; offsets are relative to its begin) -/
theorem VarInv.reserve {v : Vec} {es : List Elem} (h : VarInv v es) (n b : Nat) (junk : Nat → Nat) :
    VarInv (v.reserve n b junk) es :=
  h.step junk (.reserve n b) trivial

theorem VarInv.empty {v : Vec} (hl : ListOK v.ps) (hnf : v.fixedLoc = false) (hs : v.loc.size = 0) (hlast : v.loc.last = 0)
    (hm : v.mem = []) (hp : v.poison = false) : VarInv v [] :=
  ⟨hl, hnf, fun _ h => absurd h (by simp), hs, fun k hk => absurd hk (by simp), fun x => by simp [hm], Or.inl hlast, hp⟩

theorem VarInv.new (ps : List Param) (fs : List Nat) (cap bytes : Nat) (junk : Nat → Nat) (hl : ListOK ps)
    (hnf : isFixedOrPlain ps = false) : VarInv (Vec.new ps fs cap bytes junk) [] :=
  VarInv.empty hl hnf rfl rfl rfl rfl

/-- **erase(first, last), offset-table locator, element-wise path, no overlap**: when no element of the tail is larger
    than the (aligned) bytes erased in front of it, erase refines removing the range from the sequence and never touches a
    live object (stated without `trivialReloc = false`: it holds on the memmove path too) -/
theorem VarInv.eraseRange_elementwise {v : Vec} (A M B : List Elem) (h : VarInv v (A ++ M ++ B))
    (hno : ∀ e ∈ B, esz v.ps e ≤ nextOff v.ps M) :
    VarInv (v.eraseRange A.length (A.length + M.length)) (A ++ B) :=
  (Canon.eraseRange_gen A M B h.canon (fun _ _ => Or.inr (nextOff_eq_span_slot h.notFixed M ▸ hno))).toVar
    ((eraseRange_frame v _ _).fixedLoc.trans h.notFixed)

/-- on the memmove path the documented preconditions suffice -/
theorem VOp.Ok.of_pre {ps : List Param} {w : Elem → Nat} {es : List Elem} {op : VOp} (hw : ∀ e, esz ps e ≤ w e)
    (hpre : op.Pre ps es) : op.Ok ps w true es := by
  cases op with
  | emplace e => exact ⟨hpre.1, hpre.2, hw e⟩
  | pop => exact hpre
  | erase i => exact ⟨hpre, fun _ _ => Or.inl rfl⟩
  | eraseRange i j => exact ⟨hpre.1, hpre.2, fun _ _ => Or.inl rfl⟩
  | clear => trivial
  | reserve n b => trivial

/-- `Canon.history` on the offset-table locator (the locator stays the same along a history): `R` is any notion of valid history
    whose every step is licensed -/
theorem VarInv.history_of {v : Vec} {es : List Elem} (h : VarInv v es) (junk : Nat → Nat) (R : List Elem → List VOp → Prop)
    (hR : ∀ es op ops, R es (op :: ops) → op.Ok v.ps v.slot (v.trivialReloc || v.fixedLoc) es ∧ R (op.spec es) ops)
    (ops : List VOp) (hv : R es ops) : VarInv (ops.foldl (VOp.apply junk) v) (ops.foldl VOp.spec es) :=
  (h.canon.history junk R hR ops hv).toVar ((history_fixedLoc junk ops v).trans h.notFixed)

/-- **every history on the memmove path**: after any valid sequence of operations the vector represents exactly what an
    ordinary sequence of tuples holds after the same operations (unbounded in length) -/
theorem VarInv.history {v : Vec} {es : List Elem} (h : VarInv v es) (ht : v.trivialReloc = true) (junk : Nat → Nat)
    (ops : List VOp) (hv : Valid v.ps es ops) :
    VarInv (ops.foldl (VOp.apply junk) v) (ops.foldl VOp.spec es) :=
  h.history_of junk (Valid v.ps) (fun _ _ _ hv => ⟨ht ▸ .of_pre h.slot_ge hv.1, hv.2⟩) ops hv

def fixRec (ps : List Param) (stride : Nat) (es : List Elem) (k : Nat) : Rec :=
  ⟨stride * k, esz ps (es.getD k []), es.getD k []⟩

structure FixInv (v : Vec) (es : List Elem) : Prop where
  lok : ListOK v.ps
  isFixed : v.fixedLoc = true
  eok : ElemsOK v.ps es
  count_eq : v.loc.count = es.length
  stride_dvd : storageAl v.ps ∣ v.loc.stride
  fits : ∀ e ∈ es, esz v.ps e ≤ v.loc.stride
  mem_eq : Holds v.mem es.length (fixRec v.ps v.loc.stride es)
  clean : v.poison = false

theorem FixInv.empty {v : Vec} (hl : ListOK v.ps) (hf : v.fixedLoc = true) (hc : v.loc.count = 0)
    (hd : storageAl v.ps ∣ v.loc.stride) (hm : v.mem = []) (hp : v.poison = false) : FixInv v [] :=
  ⟨hl, hf, fun _ h => absurd h (by simp), hc, hd, fun _ h => absurd h (by simp), fun x => by simp [hm], hp⟩

/-- on the stride locator the slot picture is "element `k` lives at `stride * k`" -/
theorem fix_eqs {v : Vec} (hf : v.fixedLoc = true) (es : List Elem) :
    (∀ k, k ≤ es.length → offs v.slot es k = v.loc.stride * k) ∧
    ∀ k, k < es.length → fixRec v.ps v.loc.stride es k = slotRec v.ps v.slot es k := by
  have h1 : ∀ k, k ≤ es.length → offs v.slot es k = v.loc.stride * k := fun k hk => by
    rw [offs, span_slot_fixed hf, List.length_take_of_le hk]
  exact ⟨h1, fun k hk => by rw [fixRec, slotRec, h1 k (Nat.le_of_lt hk)]⟩

theorem FixInv.canon {v : Vec} {es : List Elem} (h : FixInv v es) : Canon v es := by
  obtain ⟨e1, e3⟩ := fix_eqs h.isFixed es
  have hde : v.dataEnd = span v.slot es := by simp [Vec.dataEnd, h.isFixed, h.count_eq, span_slot_fixed h.isFixed]
  refine ⟨⟨h.lok, h.eok, fun e => slot_of_fixed h.isFixed e ▸ h.stride_dvd, fun e he => slot_of_fixed h.isFixed e ▸ h.fits e he⟩,
    ?_, ?_, ?_, h.mem_eq.congr e3, h.clean⟩
  · simp [Vec.size, h.isFixed, h.count_eq]
  · intro k hk; simp [Vec.addr, h.isFixed, e1 k (Nat.le_of_lt hk)]
  · exact Or.inr hde

theorem Canon.toFix {v : Vec} {es : List Elem} (h : Canon v es) (hf : v.fixedLoc = true) : FixInv v es := by
  obtain ⟨_, e3⟩ := fix_eqs hf es
  refine ⟨h.lok, hf, h.eok, ?_, slot_of_fixed hf [] ▸ h.slot_dvd [], fun e he => slot_of_fixed hf e ▸ h.fits e he,
    h.mem_eq.congr (fun k hk => (e3 k hk).symm), h.clean⟩
  simpa [Vec.size, hf] using h.size_eq

theorem FixInv.abs_eq {v : Vec} {es : List Elem} (h : FixInv v es) : v.abs = es.map some := h.canon.abs_eq

theorem FixInv.step {v : Vec} {es : List Elem} (h : FixInv v es) (junk : Nat → Nat) (op : VOp)
    (hok : op.Ok v.ps v.slot (v.trivialReloc || v.fixedLoc) es) : FixInv (op.apply junk v) (op.spec es) :=
  (h.canon.step junk op hok).toFix ((fixedLoc_congr (apply_ps_stride junk v op).1).trans h.isFixed)

theorem FixInv.emplaceBack {v : Vec} {es : List Elem} (h : FixInv v es) (e : Elem) (he : EOK v.ps e) (hsz : 0 < esz v.ps e)
    (hfit : esz v.ps e ≤ v.loc.stride) : FixInv (v.emplaceBack e) (es ++ [e]) :=
  h.step (fun _ => 0) (.emplace e) ⟨he, hsz, slot_of_fixed h.isFixed e ▸ hfit⟩

theorem FixInv.reserve {v : Vec} {es : List Elem} (h : FixInv v es) (n b : Nat) (junk : Nat → Nat) :
    FixInv (v.reserve n b junk) es :=
  h.step junk (.reserve n b) trivial

/-- **erase(first, last) on the stride locator, element-wise path**: same refinement as on the memmove path, and no live
    object is ever clobbered (stated for both paths) -/
theorem FixInv.eraseRange_elementwise {v : Vec} (A M B : List Elem) (h : FixInv v (A ++ M ++ B)) : FixInv (v.eraseRange A.length (A.length + M.length)) (A ++ B) :=
  (Canon.eraseRange_gen A M B h.canon (fun _ _ => Or.inl (by rw [h.isFixed, Bool.or_true]))).toFix
    ((eraseRange_frame v _ _).fixedLoc.trans h.isFixed)

end Cntgs
