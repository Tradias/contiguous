/-
Standalone elements (ContiguousElement) over whole histories: every sequence of element constructions (from the three
kinds of reference, copy, allocator-extended copy and move), both assignments on all their branches, swap and
destruction — allocation failures included — refines the same sequence on a map  name ↦ value | moved-from.

`ERep` is what a concrete element (`ElemSt`: value, byte size, owning pointer) must satisfy to represent an abstract
one: a live element holds exactly the value, of the list's shape, in a block that is large enough; a moved-from
element holds no block.  (`elemBytes`, the size an element records, is the `esz` of VectorProofs for a well-formed element —
`placeEnd_aligned` at offset 0 —; nothing here needs the layout inside the block, so no lemma says so.)

Every operation is analysed once: an equation `EWorld.elem*_eq` for the operations with one source; for the operations on
two elements `binary_trivial` (called on one element, or on a name that holds none), `elemSwap_some`, and a lemma with a motive
for each assignment (`elemAssign_cases`, `elemMoveAssign_cases`: one hypothesis per way the operation can end).  The world an
operation results in is written with `setE` and `done`; an allocation throws iff `heap.fail = some 0`.  Refinement (below),
ownership (ElemOwnProofs), the fault theorems (C17), the one-step theorems (C12) and the frames (C19) are read off these.
-/
import Cntgs.RefProofs
import Cntgs.WorldCases
import Cntgs.LayoutProofs
namespace Cntgs

inductive AElem
  | live (val : Elem)
  | moved
  deriving Repr

def ERep (ps : List Param) (es : ElemSt) : AElem → Prop
  | .live val => es.val = val ∧ val.length = ps.length ∧ es.bytes = elemBytes ps val ∧ 0 < es.bytes ∧
                 es.ptr.blk ≠ none ∧ es.bytes ≤ es.ptr.units * storageAl ps
  | .moved => es.ptr.blk = none ∧ es.ptr.units = 0

theorem ERep.len {ps : List Param} {es : ElemSt} {v : Elem} (h : ERep ps es (.live v)) : v.length = ps.length := h.2.1

theorem ERep.bytes_eq {ps : List Param} {es : ElemSt} {v : Elem} (h : ERep ps es (.live v)) : es.bytes = elemBytes ps v := h.2.2.1

theorem ERep.pos {ps : List Param} {es : ElemSt} {v : Elem} (h : ERep ps es (.live v)) : 0 < es.bytes := h.2.2.2.1

theorem ERep.blk {ps : List Param} {es : ElemSt} {v : Elem} (h : ERep ps es (.live v)) : es.ptr.blk ≠ none := h.2.2.2.2.1

theorem ERep.fits {ps : List Param} {es : ElemSt} {v : Elem} (h : ERep ps es (.live v)) : es.bytes ≤ es.ptr.units * storageAl ps :=
  h.2.2.2.2.2

def ERel (ps : List Param) : Option ElemSt → Option AElem → Prop
  | none, none => True
  | some es, some a => ERep ps es a
  | _, _ => False

def EInv (ps : List Param) (elems : Nat → Option ElemSt) (A : Nat → Option AElem) : Prop := ∀ k, ERel ps (elems k) (A k)

def eset {α : Type} (A : Nat → Option α) (k : Nat) (x : Option α) : Nat → Option α := fun i => if i = k then x else A i

theorem eset_same {α : Type} {A : Nat → Option α} {k : Nat} {x : Option α} (h : A k = x) : eset A k x = A := by
  funext i
  unfold eset
  split
  · rename_i hi; rw [hi, h]
  · rfl

theorem setE_elems (ew : EWorld) (k : Nat) (e : Option ElemSt) : (ew.setE k e).elems = eset ew.elems k e := rfl

theorem EWorld.setE_self (ew : EWorld) (k : Nat) (e : Option ElemSt) : (ew.setE k e).elems k = e := if_pos rfl

theorem EWorld.setE_other (ew : EWorld) {k i : Nat} (e : Option ElemSt) (h : i ≠ k) : (ew.setE k e).elems i = ew.elems i :=
  if_neg h

theorem EWorld.setE_setE_fst (ew : EWorld) {a b : Nat} (x y : Option ElemSt) (hab : a ≠ b) :
    ((ew.setE b x).setE a y).elems b = x :=
  (setE_other _ y (Ne.symm hab)).trans (ew.setE_self b x)

theorem EInv.set {ps : List Param} {el : Nat → Option ElemSt} {A : Nat → Option AElem} (h : EInv ps el A) (k : Nat)
    (x : Option ElemSt) (a : Option AElem) (hx : ERel ps x a) : EInv ps (eset el k x) (eset A k a) := by
  intro i
  by_cases hi : i = k
  · simp only [eset, hi, if_true]; exact hx
  · simp only [eset, hi, if_false]; exact h i

theorem EInv.setE {ps : List Param} {ew : EWorld} {A : Nat → Option AElem} (h : EInv ps ew.elems A) {k : Nat}
    {es : ElemSt} {a : AElem} (hr : ERep ps es a) : EInv ps (ew.setE k (some es)).elems (eset A k (some a)) :=
  h.set k (some es) (some a) hr

theorem EInv.setE2 {ps : List Param} {ew : EWorld} {A : Nat → Option AElem} (h : EInv ps ew.elems A) {a b : Nat}
    {x y : ElemSt} {sx sy : AElem} (hx : ERep ps x sx) (hy : ERep ps y sy) :
    EInv ps ((ew.setE a (some x)).setE b (some y)).elems (eset (eset A a (some sx)) b (some sy)) :=
  (h.setE hx).setE hy

theorem EInv.get {ps : List Param} {el : Nat → Option ElemSt} {A : Nat → Option AElem} (h : EInv ps el A) (k : Nat) {a : AElem}
    (hA : A k = some a) : ∃ es, el k = some es ∧ ERep ps es a := by
  have := h k
  rw [hA] at this
  cases hel : el k with
  | none => rw [hel] at this; exact this.elim
  | some es => rw [hel] at this; exact ⟨es, rfl, this⟩

theorem EInv.getSome {ps : List Param} {el : Nat → Option ElemSt} {A : Nat → Option AElem} (h : EInv ps el A) (k : Nat)
    (hA : A k ≠ none) : ∃ es a, el k = some es ∧ A k = some a ∧ ERep ps es a := by
  obtain ⟨a, hAa⟩ := Option.ne_none_iff_exists'.mp hA
  obtain ⟨es, he, hr⟩ := h.get k hAa
  exact ⟨es, a, he, hAa, hr⟩

theorem EInv.none_iff {ps : List Param} {el : Nat → Option ElemSt} {A : Nat → Option AElem} (h : EInv ps el A) (k : Nat) :
    el k = none ↔ A k = none := by
  have := h k
  cases hel : el k <;> cases hA : A k <;> rw [hel, hA] at this
  · exact ⟨fun _ => rfl, fun _ => rfl⟩
  · exact this.elim
  · exact this.elim
  · exact ⟨nofun, nofun⟩

theorem ERep.congr {ps : List Param} {es es' : ElemSt} {x : AElem} (h : ERep ps es x) (hv : es'.val = es.val)
    (hby : es'.bytes = es.bytes) (hb : es'.ptr.blk = es.ptr.blk) (hu : es'.ptr.units = es.ptr.units) : ERep ps es' x := by
  cases x with
  | live v => unfold ERep at h ⊢; rw [hv, hby, hb, hu]; exact h
  | moved => unfold ERep at h ⊢; rw [hb, hu]; exact h

theorem elemBytes_congr (ps : List Param) (a b : Elem) (h : elemCounts a = elemCounts b) : elemBytes ps a = elemBytes ps b := by
  unfold elemBytes; rw [h]

/-- copy assignment assigns field by field (no reallocation) for lists without VaryingSize unless a propagating allocator
    has to be taken over -/
def fieldwiseCopy (ps : List Param) (ew : EWorld) : Bool := isFixedOrPlain ps && (!ew.w.acfg.pocca || ew.w.acfg.ae)

inductive EOp
  | fromRef (k s i alloc : Nat) (mv : Bool)
  | copy (a b : Nat)
  | copyA (a b alloc : Nat)
  | move (a b : Nat)
  | moveA (a b alloc : Nat)
  | assign (a b : Nat)
  | moveAssign (a b : Nat)
  | swap (a b : Nat)
  | destroy (k : Nat)
  deriving Repr

def EOp.apply (ps : List Param) (ew : EWorld) : EOp → EWorld
  | .fromRef k s i al mv => ew.elemFromRef ps k s i al mv
  | .copy a b => ew.elemCopy ps a b
  | .copyA a b al => ew.elemCopyA ps a b al
  | .move a b => ew.elemMove a b
  | .moveA a b al => ew.elemMoveA ps a b al
  | .assign a b => ew.elemAssign ps a b
  | .moveAssign a b => ew.elemMoveAssign ps a b
  | .swap a b => ew.elemSwap a b
  | .destroy k => ew.elemDestroy ps k

/-- does `Element{std::move(e_a), alloc}` take over the block? -/
def stealsCtor (ew : EWorld) (a alloc : Nat) : Bool :=
  match ew.elems a with
  | some ea => ew.w.acfg.eq alloc ea.ptr.alloc
  | none => false

/-- does `e_b = std::move(e_a)` take over the block? -/
def stealsAssign (ew : EWorld) (a b : Nat) : Bool :=
  match ew.elems a, ew.elems b with
  | some ea, some eb => ew.w.acfg.ae || ew.w.acfg.pocma || ew.w.acfg.eq eb.ptr.alloc ea.ptr.alloc
  | _, _ => false

/-- the same operation on the map of abstract elements -/
def EOp.aspec (ps : List Param) (ew : EWorld) (A : Nat → Option AElem) : EOp → (Nat → Option AElem)
  | .fromRef k s i _ _ => match (ew.w.vecs s).bind (fun v => (v.get i).map (fun e => (v, e))) with
      | some (_, e) => eset A k (some (.live e))
      | none => A
  | .copy a b => eset A b (A a)
  | .copyA a b _ => eset A b (A a)
  | .move a b => eset (eset A b (A a)) a (some .moved)
  | .moveA a b al => match A a with
      | some (.live v) =>
        if stealsCtor ew a al then eset (eset A b (some (.live v))) a (some .moved)
        else eset (eset A b (some (.live v))) a (some (.live (movedValues ps v)))
      | _ => A
  | .assign a b => if a = b then A else eset A b (A a)
  | .moveAssign a b =>
    if a = b then A else
    match A a, A b with
    | some (.live va), some y =>
      if stealsAssign ew a b then eset (eset A b (some (.live va))) a (some .moved)
      else if isFixedOrPlain ps then
        (match y with
         | .live vb => eset (eset A b (some (.live va))) a (some (.live (refAssign ps true va vb).1))
         | .moved => A)
      else eset (eset A b (some (.live va))) a (some (.live (movedValues ps va)))
    | _, _ => A
  | .swap a b => if a = b then A else eset (eset A a (A b)) b (A a)
  | .destroy k => eset A k none

/-- documented preconditions: constructions go into an empty slot, sources are live, field-wise assignment needs a live
    target with the same field sizes, elements are not empty -/
def EOp.Pre (ps : List Param) (ew : EWorld) (A : Nat → Option AElem) : EOp → Prop
  | .fromRef k s i _ _ => A k = none ∧
      ∀ v e, (ew.w.vecs s).bind (fun v => (v.get i).map (fun e => (v, e))) = some (v, e) → e.length = ps.length ∧ 0 < elemBytes ps e
  | .copy a b => (∃ v, A a = some (.live v)) ∧ A b = none
  | .copyA a b _ => (∃ v, A a = some (.live v)) ∧ A b = none
  | .move a b => (∃ v, A a = some (.live v)) ∧ A b = none
  | .moveA a b _ => (∃ v, A a = some (.live v)) ∧ A b = none
  | .assign a b => a = b ∨ ∃ va, A a = some (.live va) ∧ A b ≠ none ∧
      (fieldwiseCopy ps ew = true → ∃ vb, A b = some (.live vb) ∧ elemCounts vb = elemCounts va)
  | .moveAssign a b => a = b ∨ ∃ va, A a = some (.live va) ∧ A b ≠ none ∧
      (stealsAssign ew a b = false → isFixedOrPlain ps = true → ∃ vb, A b = some (.live vb) ∧ elemCounts vb = elemCounts va)
  | .swap a b => a = b ∨ (A a ≠ none ∧ A b ≠ none)
  | .destroy _ => True

theorem stealsAssign_some {ew : EWorld} {a b : Nat} {ea eb : ElemSt} (ha : ew.elems a = some ea) (hb : ew.elems b = some eb) :
    stealsAssign ew a b = (ew.w.acfg.ae || ew.w.acfg.pocma || ew.w.acfg.eq eb.ptr.alloc ea.ptr.alloc) := by
  simp only [stealsAssign, ha, hb]

/-- `ew` with the ledger and the flag an operation ends with -/
def EWorld.done (ew : EWorld) (h : Heap) (t : Bool) : EWorld := { ew with w := { ew.w with heap := h, threw := t } }

/-- what move construction and stealing leave of the source: no block, no values -/
def ElemSt.movedFrom (e : ElemSt) : ElemSt := { e with ptr := { e.ptr with blk := none, units := 0 }, val := [] }

theorem EWorld.elemFromRef_eq (ew : EWorld) (ps : List Param) (k s i al : Nat) (mv : Bool) :
    ew.elemFromRef ps k s i al mv =
      ((ew.w.vecs s).bind fun v => (v.get i).map fun e => (v, e)).elim ew fun ve =>
        if ew.w.heap.fail = some 0 then ew.done ew.w.heap.thrown true
        else EWorld.done { ew.setE k (some ⟨ve.2, elemBytes ps ve.2,
              ⟨some ew.w.heap.next, units (elemBytes ps ve.2) (storageAl ps), al⟩⟩) with
            w := if mv then ew.w.set s (some (ve.1.setElem i (movedValues ps ve.2))) else ew.w }
          (ew.w.heap.grown al (units (elemBytes ps ve.2) (storageAl ps) * storageAl ps) .data) false := by
  unfold EWorld.elemFromRef
  cases (ew.w.vecs s).bind fun v => (v.get i).map fun e => (v, e) with
  | none => rfl
  | some ve => exact make_match ..

theorem EWorld.elemCopy_eq (ew : EWorld) (ps : List Param) (a b : Nat) :
    ew.elemCopy ps a b = (ew.elems a).elim ew fun ea =>
      if ew.w.heap.fail = some 0 then ew.done ew.w.heap.thrown true
      else (ew.setE b (some { ea with ptr := ⟨some ew.w.heap.next, ea.ptr.units, socc ea.ptr.alloc⟩ })).done
        (ew.w.heap.grown (socc ea.ptr.alloc) (ea.ptr.units * storageAl ps) .data) false := by
  unfold EWorld.elemCopy
  cases ew.elems a with
  | none => rfl
  | some ea => exact make_match ..

theorem EWorld.elemCopyA_eq (ew : EWorld) (ps : List Param) (a b al : Nat) :
    ew.elemCopyA ps a b al = (ew.elems a).elim ew fun ea =>
      if ew.w.heap.fail = some 0 then ew.done ew.w.heap.thrown true
      else (ew.setE b (some { ea with ptr := ⟨some ew.w.heap.next, units ea.bytes (storageAl ps), al⟩ })).done
        (ew.w.heap.grown al (units ea.bytes (storageAl ps) * storageAl ps) .data) false := by
  unfold EWorld.elemCopyA
  cases ew.elems a with
  | none => rfl
  | some ea => exact make_match ..

theorem EWorld.elemMove_eq (ew : EWorld) (a b : Nat) :
    ew.elemMove a b = (ew.elems a).elim ew fun ea => ((ew.setE b (some ea)).setE a (some ea.movedFrom)).done ew.w.heap false := by
  unfold EWorld.elemMove
  cases ew.elems a <;> rfl

theorem EWorld.elemMoveA_eq (ew : EWorld) (ps : List Param) (a b al : Nat) :
    ew.elemMoveA ps a b al = (ew.elems a).elim ew fun ea =>
      if ew.w.acfg.eq al ea.ptr.alloc = true then ew.elemMove a b
      else if ew.w.heap.fail = some 0 then ew.done ew.w.heap.thrown true
      else ((ew.setE b (some { ea with ptr := ⟨some ew.w.heap.next, ea.ptr.units, al⟩ })).setE a
          (some { ea with val := movedValues ps ea.val })).done (ew.w.heap.grown al (ea.ptr.units * storageAl ps) .data) false := by
  rw [EWorld.elemMove_eq]
  unfold EWorld.elemMoveA
  cases ew.elems a with
  | none => rfl
  | some ea => exact ite_congr rfl (fun _ => rfl) fun _ => make_match ..

theorem EWorld.elemDestroy_eq (ew : EWorld) (ps : List Param) (k : Nat) :
    ew.elemDestroy ps k = (ew.elems k).elim ew fun e =>
      (ew.setE k none).done (e.ptr.dealloc ew.w.heap ew.w.acfg (storageAl ps)) false := by
  unfold EWorld.elemDestroy
  cases ew.elems k <;> rfl

/-- `P` holds of the result of each of the three binary element operations (the conclusion of `binary_trivial`) -/
structure EWorld.Binary (P : EWorld → Prop) (ew : EWorld) (a b : Nat) : Prop where
  assign : ∀ ps, P (ew.elemAssign ps a b)
  moveAssign : ∀ ps, P (ew.elemMoveAssign ps a b)
  swap : P (ew.elemSwap a b)

/-- the assignments and `swap` only clear the flag when called on one element, and do nothing on a name that holds none -/
theorem EWorld.binary_trivial {P : EWorld → Prop} {ew : EWorld} {a b : Nat} (h : a = b ∨ ew.elems a = none ∨ ew.elems b = none)
    (idle : P ew) (self : P (ew.done ew.w.heap false)) : EWorld.Binary P ew a b := by
  by_cases hab : a = b
  · -- each operation is, by definition, `if a = b then ew.done ew.w.heap false else …`
    exact ⟨fun _ => (congrArg P (if_pos hab)).mpr self, fun _ => (congrArg P (if_pos hab)).mpr self,
      (congrArg P (if_pos hab)).mpr self⟩
  · have hv : ∀ ea eb, ew.elems a = some ea → ew.elems b = some eb → False := fun ea eb ha hb => by
      rcases h.resolve_left hab with h | h
      · cases h.symm.trans ha
      · cases h.symm.trans hb
    refine ⟨fun ps => ?_, fun ps => ?_, ?_⟩
    · unfold EWorld.elemAssign
      rw [if_neg hab]
      split
      · exact (hv _ _ ‹_› ‹_›).elim
      · exact idle
    · unfold EWorld.elemMoveAssign
      rw [if_neg hab]
      split
      · exact (hv _ _ ‹_› ‹_›).elim
      · exact idle
    · unfold EWorld.elemSwap
      rw [if_neg hab]
      split
      · exact (hv _ _ ‹_› ‹_›).elim
      · exact idle

theorem EWorld.elemSwap_some {ew : EWorld} {a b : Nat} {ea eb : ElemSt} (hab : a ≠ b) (ha : ew.elems a = some ea)
    (hb : ew.elems b = some eb) :
    ew.elemSwap a b = ((ew.setE a (some { eb with ptr := (Ptr.swap ew.w.acfg ea.ptr eb.ptr).1 })).setE b
      (some { ea with ptr := (Ptr.swap ew.w.acfg ea.ptr eb.ptr).2 })).done ew.w.heap false := by
  simp only [EWorld.elemSwap, if_neg hab, ha, hb]
  rfl

/-- copy assignment between two different elements: field by field into the old block; or through the owning pointer's copy
    assignment, which throws (the target keeps values and block) or hands over a block for the source's values -/
theorem EWorld.elemAssign_cases {P : EWorld → Prop} {ew : EWorld} {a b : Nat} {ea eb : ElemSt} (hab : a ≠ b)
    (ha : ew.elems a = some ea) (hb : ew.elems b = some eb) (ps : List Param)
    (fieldwise : fieldwiseCopy ps ew = true →
      P ((ew.setE b (some { eb with
        val := (refAssign ps false ea.val eb.val).2
        ptr := { eb.ptr with alloc := if ew.w.acfg.pocca then ea.ptr.alloc else eb.ptr.alloc } })).done ew.w.heap false))
    (throws : ¬fieldwiseCopy ps ew = true → ew.w.heap.fail = some 0 →
      P ((ew.setE b (some { eb with ptr := eb.ptr.adopt ew.w.acfg ea.ptr })).done ew.w.heap.thrown true))
    (ok : ¬fieldwiseCopy ps ew = true → ∀ h1 p1, eb.ptr.copyAssign ew.w.heap ew.w.acfg (storageAl ps) ea.ptr = (h1, p1, true) →
      P ((ew.setE b (some ⟨ea.val, ea.bytes, p1⟩)).done h1 false)) :
    P (ew.elemAssign ps a b) := by
  unfold EWorld.elemAssign
  rw [if_neg hab, ha, hb]
  refine ite_cases fieldwise fun hf => ?_
  rcases hr : eb.ptr.copyAssign ew.w.heap ew.w.acfg (storageAl ps) ea.ptr with ⟨h1, p1, _ | _⟩
  · obtain ⟨hfail, rfl, rfl⟩ := copyAssign_false hr
    exact throws hf hfail
  · exact ok hf h1 p1 hr

/-- move assignment between two different elements: the block is taken over (allocators equal or propagating); or field by
    field (no VaryingSize); or element-wise into a new block (which may throw) or into the old one -/
theorem EWorld.elemMoveAssign_cases {P : EWorld → Prop} {ew : EWorld} {a b : Nat} {ea eb : ElemSt} (hab : a ≠ b)
    (ha : ew.elems a = some ea) (hb : ew.elems b = some eb) (ps : List Param)
    (steal : stealsAssign ew a b = true →
      P (((ew.setE b (some { ea with ptr := ⟨ea.ptr.blk, ea.ptr.units, if ew.w.acfg.pocma then ea.ptr.alloc else eb.ptr.alloc⟩ })).setE a
          (some ea.movedFrom)).done (eb.ptr.dealloc ew.w.heap ew.w.acfg (storageAl ps)) false))
    (fieldwise : stealsAssign ew a b = false → isFixedOrPlain ps = true →
      P (((ew.setE b (some { eb with val := (refAssign ps true ea.val eb.val).2 })).setE a
          (some { ea with val := (refAssign ps true ea.val eb.val).1 })).done ew.w.heap false))
    (grow_throws : stealsAssign ew a b = false → isFixedOrPlain ps = false → ea.bytes > eb.ptr.units * storageAl ps →
      ew.w.heap.fail = some 0 → P (ew.done ew.w.heap.thrown true))
    (grow : stealsAssign ew a b = false → isFixedOrPlain ps = false → ea.bytes > eb.ptr.units * storageAl ps →
      ¬ew.w.heap.fail = some 0 →
      P (((ew.setE b (some ⟨ea.val, ea.bytes, ⟨some ew.w.heap.next, ea.ptr.units, eb.ptr.alloc⟩⟩)).setE a
          (some { ea with val := movedValues ps ea.val })).done
          (eb.ptr.dealloc (ew.w.heap.grown eb.ptr.alloc (ea.ptr.units * storageAl ps) .data) ew.w.acfg (storageAl ps)) false))
    (inplace : stealsAssign ew a b = false → isFixedOrPlain ps = false → ea.bytes ≤ eb.ptr.units * storageAl ps →
      P (((ew.setE b (some { eb with val := ea.val, bytes := ea.bytes })).setE a
          (some { ea with val := movedValues ps ea.val })).done ew.w.heap false)) :
    P (ew.elemMoveAssign ps a b) := by
  have hs := stealsAssign_some ha hb
  unfold EWorld.elemMoveAssign
  rw [if_neg hab, ha, hb]
  -- `split` on the nested `if`s would simplify the whole goal at every level
  refine ite_cases (fun h1 => steal (hs.trans h1)) fun h1 => ?_
  have h1 := hs.trans (Bool.eq_false_iff.mpr h1)
  refine ite_cases (fieldwise h1) fun h2 => ?_
  have h2 := Bool.eq_false_iff.mpr h2
  refine ite_cases (fun h3 => ?_) fun h3 => inplace h1 h2 (Nat.le_of_not_gt h3)
  refine (congrArg P (make_match ..)).mpr (ite_cases (grow_throws h1 h2 h3) fun hf => ?_)
  -- the new block comes from the target's allocator, so POCMA makes no difference
  simp only [Ptr.moveAssign, ite_self]
  exact grow h1 h2 h3 hf

/-- the elements an operation may write: its target, and its source when it moves from it -/
def EOp.writes : EOp → Nat → Prop
  | .fromRef k _ _ _ _, i => i = k
  | .copy _ b, i => i = b
  | .copyA _ b _, i => i = b
  | .move a b, i => i = a ∨ i = b
  | .moveA a b _, i => i = a ∨ i = b
  | .assign _ b, i => i = b
  | .moveAssign a b, i => i = a ∨ i = b
  | .swap a b, i => i = a ∨ i = b
  | .destroy k, i => i = k

/-- `r` has the elements of `ew` outside `W`, and its vectors if `V` holds (`V`: the operation writes no vector) -/
def EWorld.Writes (ew : EWorld) (W : Nat → Prop) (V : Prop) (r : EWorld) : Prop :=
  (∀ i, ¬ W i → r.elems i = ew.elems i) ∧ (V → r.w.vecs = ew.w.vecs)

theorem EWorld.Writes.refl (ew : EWorld) (W : Nat → Prop) (V : Prop) : ew.Writes W V ew := ⟨fun _ _ => rfl, fun _ => rfl⟩

theorem EWorld.Writes.setE {ew r : EWorld} {W : Nat → Prop} {V : Prop} (f : ew.Writes W V r) {k : Nat} (hk : W k) {x : Option ElemSt} :
    ew.Writes W V (r.setE k x) :=
  ⟨fun i hi => (r.setE_other x (fun e : i = k => hi (e.symm ▸ hk))).trans (f.1 i hi), f.2⟩

/-- an operation has written at most the elements in `W` (and the vectors only if `V` fails), and has done nothing at all, or
    thrown having moved nothing but the fault schedule, or ended without a throw — or is the exception `exc` -/
def EWorld.Outcome (ew : EWorld) (W : Nat → Prop) (V exc : Prop) (r : EWorld) : Prop :=
  ew.Writes W V r ∧ (r = ew ∨ r = ew.done ew.w.heap.thrown true ∨ r.w.threw = false ∨ exc)

theorem EWorld.Writes.ok {ew r : EWorld} {W : Nat → Prop} {V : Prop} (f : ew.Writes W V r) {exc : Prop} {h : Heap} :
    ew.Outcome W V exc (r.done h false) :=
  ⟨f, Or.inr (Or.inr (Or.inl rfl))⟩

theorem EWorld.Outcome.ite {ew r1 r2 : EWorld} {W : Nat → Prop} {V exc c : Prop} [Decidable c] (f1 : ew.Outcome W V exc r1)
    (f2 : ew.Outcome W V exc r2) : ew.Outcome W V exc (if c then r1 else r2) :=
  ite_cases (fun _ => f1) (fun _ => f2)

/-- **what an element operation can have done**: only the construction from an rvalue reference, which moves out of a vector
    element, writes a vector; only copy assignment can have thrown and changed something (its throwing branch leaves the target
    with a pointer that may have taken over an equal allocator) -/
theorem EOp.outcome (ps : List Param) (ew : EWorld) (op : EOp) :
    ew.Outcome op.writes (∀ k s i al, op ≠ .fromRef k s i al true) (∃ a b, op = .assign a b) (op.apply ps ew) := by
  have nowrite := EWorld.Writes.refl ew op.writes (∀ k s i al, op ≠ .fromRef k s i al true)
  have idle : ew.Outcome _ _ (∃ a b, op = .assign a b) ew := ⟨nowrite, .inl rfl⟩
  have thrown : ew.Outcome _ _ (∃ a b, op = .assign a b) (ew.done ew.w.heap.thrown true) := ⟨nowrite, .inr (.inl rfl)⟩
  cases op with
  | fromRef k s i al mv =>
    refine elim_cases (EWorld.elemFromRef_eq ..) idle fun ve _ => .ite thrown (EWorld.Writes.ok ?_)
    refine ⟨fun j hj => ew.setE_other _ hj, fun hV => ?_⟩
    cases mv with
    | false => rfl
    | true => exact absurd rfl (hV k s i al)
  | copy a b => exact elim_cases (EWorld.elemCopy_eq ..) idle fun _ _ => .ite thrown (nowrite.setE rfl).ok
  | copyA a b al => exact elim_cases (EWorld.elemCopyA_eq ..) idle fun _ _ => .ite thrown (nowrite.setE rfl).ok
  | move a b => exact elim_cases (EWorld.elemMove_eq ..) idle fun _ _ => ((nowrite.setE (.inr rfl)).setE (.inl rfl)).ok
  | moveA a b al =>
    refine elim_cases (EWorld.elemMoveA_eq ..) idle fun _ _ => .ite ?_ (.ite thrown ((nowrite.setE (.inr rfl)).setE (.inl rfl)).ok)
    exact elim_cases (EWorld.elemMove_eq ..) idle fun _ _ => ((nowrite.setE (.inr rfl)).setE (.inl rfl)).ok
  | assign a b =>
    rcases lookup_pair_cases ew.elems a b with ht | ⟨ea, eb, hab, ha, hb⟩
    · exact (EWorld.binary_trivial ht idle nowrite.ok).assign ps
    · exact EWorld.elemAssign_cases hab ha hb ps (fun _ => (nowrite.setE rfl).ok)
        (fun _ _ => ⟨nowrite.setE rfl, .inr (.inr (.inr ⟨a, b, rfl⟩))⟩) (fun _ _ _ _ => (nowrite.setE rfl).ok)
  | moveAssign a b =>
    rcases lookup_pair_cases ew.elems a b with ht | ⟨ea, eb, hab, ha, hb⟩
    · exact (EWorld.binary_trivial ht idle nowrite.ok).moveAssign ps
    · have both : ∀ {x y h}, ew.Outcome _ _ (∃ a' b', EOp.moveAssign a b = .assign a' b') (((ew.setE b x).setE a y).done h false) :=
        ((nowrite.setE (.inr rfl)).setE (.inl rfl)).ok
      exact EWorld.elemMoveAssign_cases hab ha hb ps (fun _ => both) (fun _ _ => both) (fun _ _ _ _ => thrown) (fun _ _ _ _ => both) (fun _ _ _ => both)
  | swap a b =>
    rcases lookup_pair_cases ew.elems a b with ht | ⟨ea, eb, hab, ha, hb⟩
    · exact (EWorld.binary_trivial ht idle nowrite.ok).swap
    · rw [show (EOp.swap a b).apply ps ew = _ from EWorld.elemSwap_some hab ha hb]
      exact ((nowrite.setE (.inl rfl)).setE (.inr rfl)).ok
  | destroy k => exact elim_cases (EWorld.elemDestroy_eq ..) idle fun _ _ => (nowrite.setE rfl).ok

/-- the three things `EOp.outcome` says, each under its name: an operation leaves every element that it does not write, … -/
theorem EOp.elems_kept (ps : List Param) (ew : EWorld) (op : EOp) {i : Nat} (hi : ¬ op.writes i) :
    (op.apply ps ew).elems i = ew.elems i :=
  (op.outcome ps ew).1.1 i hi

/-- … every operation but the construction from an rvalue reference leaves the vectors, … -/
theorem EOp.vecs_kept (ps : List Param) (ew : EWorld) (op : EOp) (hop : ∀ k s i al, op ≠ .fromRef k s i al true) :
    (op.apply ps ew).w.vecs = ew.w.vecs :=
  (op.outcome ps ew).1.2 hop

/-- … and it has done nothing at all, or thrown having moved nothing but the fault schedule, or ended without a throw — or is
    a copy assignment -/
theorem EOp.ending (ps : List Param) (ew : EWorld) (op : EOp) :
    op.apply ps ew = ew ∨ op.apply ps ew = ew.done ew.w.heap.thrown true ∨ (op.apply ps ew).w.threw = false ∨
      ∃ a b, op = .assign a b :=
  (op.outcome ps ew).2

/-- the elements of `r` represent `S`, or still `A` if `r` ended in a throw: what a step claims of the world it results in -/
def EWorld.Reps (ps : List Param) (A S : Nat → Option AElem) (r : EWorld) : Prop := EInv ps r.elems (if r.w.threw then A else S)

theorem EInv.reps {ps : List Param} {ew : EWorld} {A : Nat → Option AElem} (h : EInv ps ew.elems A) : ew.Reps ps A A := by
  unfold EWorld.Reps
  rw [ite_self]
  exact h

theorem EWorld.Reps.done {ps : List Param} {R : EWorld} {S A : Nat → Option AElem} {h1 : Heap} (hR : EInv ps R.elems S) :
    (R.done h1 false).Reps ps A S :=
  hR

theorem EInv.throws_or {ps : List Param} {ew : EWorld} {A : Nat → Option AElem} (h : EInv ps ew.elems A) {c : Prop} [Decidable c]
    {h1 : Heap} {R : EWorld} {S : Nat → Option AElem} (hR : R.Reps ps A S) : (if c then ew.done h1 true else R).Reps ps A S :=
  ite_cases (fun _ => h) (fun _ => hR)

theorem ERep.reblock {ps : List Param} {es : ElemSt} {v : Elem} (h : ERep ps es (.live v)) {p : Ptr} (hb : p.blk ≠ none)
    (hu : es.bytes ≤ p.units * storageAl ps) : ERep ps { es with ptr := p } (.live v) :=
  ⟨h.1, h.len, h.bytes_eq, h.pos, hb, hu⟩

theorem ERep.assigned {ps : List Param} {ea eb : ElemSt} {va vb : Elem} (ha : ERep ps ea (.live va)) (hb : ERep ps eb (.live vb))
    (hc : elemCounts vb = elemCounts va) (mv : Bool) {p : Ptr} (hp : p.blk = eb.ptr.blk ∧ p.units = eb.ptr.units) :
    ERep ps { eb with val := (refAssign ps mv ea.val eb.val).2, ptr := p } (.live va) := by
  refine ⟨?_, ha.len, hb.bytes_eq.trans (elemBytes_congr ps _ _ hc), hb.pos, hp.1 ▸ hb.blk, hp.2 ▸ hb.fits⟩
  show (refAssign ps mv ea.val eb.val).2 = va
  rw [ha.1, hb.1, refAssign_eq ps mv va vb ha.len hb.len]

theorem ERep.moved_source {ps : List Param} {ea : ElemSt} (h : ERep ps ea (.live ea.val)) {x : Elem}
    (hs : x.length = ps.length ∧ elemCounts x = elemCounts ea.val) : ERep ps { ea with val := x } (.live x) :=
  ⟨rfl, hs.1, h.bytes_eq.trans (elemBytes_congr ps _ _ hs.2).symm, h.pos, h.blk, h.fits⟩

theorem elem_fromRef_refines (ps : List Param) (hS : 0 < storageAl ps) (ew : EWorld) (A : Nat → Option AElem) (h : EInv ps ew.elems A)
    (k s i al : Nat) (mv : Bool) (hpre : (EOp.fromRef k s i al mv).Pre ps ew A) :
    (ew.elemFromRef ps k s i al mv).Reps ps A ((EOp.fromRef k s i al mv).aspec ps ew A) := by
  rw [EWorld.elemFromRef_eq]
  simp only [EOp.aspec]
  cases hv : (ew.w.vecs s).bind (fun v => (v.get i).map (fun e => (v, e))) with
  | none => exact h.reps
  | some ve =>
    obtain ⟨hlen, hpos⟩ := hpre.2 ve.1 ve.2 hv
    exact h.throws_or (.done (h.setE (a := .live ve.2) ⟨rfl, hlen, rfl, hpos, Option.some_ne_none _, le_units_mul _ _ hS⟩))

theorem elem_copy_refines (ps : List Param) (ew : EWorld) (A : Nat → Option AElem) (h : EInv ps ew.elems A)
    (a b : Nat) (hpre : (EOp.copy a b).Pre ps ew A) : (ew.elemCopy ps a b).Reps ps A ((EOp.copy a b).aspec ps ew A) := by
  obtain ⟨⟨va, hA⟩, _⟩ := hpre
  obtain ⟨ea, hea, hr⟩ := h.get a hA
  rw [EWorld.elemCopy_eq, hea, show (EOp.copy a b).aspec ps ew A = eset A b (some (.live va)) from hA ▸ rfl]
  exact h.throws_or (.done (h.setE (hr.reblock (Option.some_ne_none _) hr.fits)))

theorem elem_copyA_refines (ps : List Param) (hS : 0 < storageAl ps) (ew : EWorld) (A : Nat → Option AElem) (h : EInv ps ew.elems A)
    (a b al : Nat) (hpre : (EOp.copyA a b al).Pre ps ew A) :
    (ew.elemCopyA ps a b al).Reps ps A ((EOp.copyA a b al).aspec ps ew A) := by
  obtain ⟨⟨va, hA⟩, _⟩ := hpre
  obtain ⟨ea, hea, hr⟩ := h.get a hA
  rw [EWorld.elemCopyA_eq, hea, show (EOp.copyA a b al).aspec ps ew A = eset A b (some (.live va)) from hA ▸ rfl]
  exact h.throws_or (.done (h.setE (hr.reblock (Option.some_ne_none _) (le_units_mul _ _ hS))))

theorem elem_move_refines (ps : List Param) (ew : EWorld) (A : Nat → Option AElem) (h : EInv ps ew.elems A)
    (a b : Nat) (hpre : (EOp.move a b).Pre ps ew A) : (ew.elemMove a b).Reps ps A ((EOp.move a b).aspec ps ew A) := by
  obtain ⟨⟨va, hA⟩, _⟩ := hpre
  obtain ⟨ea, hea, hr⟩ := h.get a hA
  rw [EWorld.elemMove_eq, hea,
    show (EOp.move a b).aspec ps ew A = eset (eset A b (some (.live va))) a (some .moved) from hA ▸ rfl]
  exact .done (h.setE2 hr (sy := .moved) ⟨rfl, rfl⟩)

theorem elem_moveA_refines (ps : List Param) (ew : EWorld) (A : Nat → Option AElem) (h : EInv ps ew.elems A)
    (a b al : Nat) (hpre : (EOp.moveA a b al).Pre ps ew A) :
    (ew.elemMoveA ps a b al).Reps ps A ((EOp.moveA a b al).aspec ps ew A) := by
  obtain ⟨va, hA⟩ := hpre.1
  obtain ⟨ea, hea, hr⟩ := h.get a hA
  obtain rfl : ea.val = va := hr.1
  have hspec : (EOp.moveA a b al).aspec ps ew A =
      if ew.w.acfg.eq al ea.ptr.alloc = true then (EOp.move a b).aspec ps ew A
      else eset (eset A b (some (.live ea.val))) a (some (.live (movedValues ps ea.val))) := by
    simp only [EOp.aspec, hA, stealsCtor, hea]
  rw [EWorld.elemMoveA_eq, hea, hspec, Option.elim_some]
  by_cases hst : ew.w.acfg.eq al ea.ptr.alloc = true
  · rw [if_pos hst, if_pos hst]
    exact elem_move_refines ps ew A h a b hpre
  · rw [if_neg hst, if_neg hst]
    exact h.throws_or (.done (h.setE2 (hr.reblock (Option.some_ne_none _) hr.fits)
      (hr.moved_source (movedValues_shape ps _ hr.len))))

theorem elem_assign_refines (ps : List Param) (ew : EWorld) (A : Nat → Option AElem) (h : EInv ps ew.elems A)
    (a b : Nat) (hpre : (EOp.assign a b).Pre ps ew A) : (ew.elemAssign ps a b).Reps ps A ((EOp.assign a b).aspec ps ew A) := by
  by_cases hab : a = b
  · rw [show (EOp.assign a b).aspec ps ew A = A from if_pos hab]
    exact (EWorld.binary_trivial (.inl hab) h.reps h).assign ps
  · obtain ⟨va, hA, hAb, hfw⟩ := hpre.resolve_left hab
    obtain ⟨ea, hea, hra⟩ := h.get a hA
    obtain ⟨eb, y, heb, hAy, hrb⟩ := h.getSome b hAb
    rw [show (EOp.assign a b).aspec ps ew A = eset A b (some (.live va)) from (if_neg hab).trans (hA ▸ rfl)]
    refine EWorld.elemAssign_cases hab hea heb ps (fun hf => ?_) (fun _ _ => ?_) (fun _ h1 p1 hr => ?_)
    · obtain ⟨vb, hAb', hcnt⟩ := hfw hf
      obtain rfl : y = .live vb := Option.some.inj (hAy.symm.trans hAb')
      exact .done (h.setE (hra.assigned hrb hcnt false ⟨rfl, rfl⟩))
    · -- the target keeps values and block: the abstract map is as it was
      have := h.setE (k := b) (hrb.congr (es' := { eb with ptr := eb.ptr.adopt ew.w.acfg ea.ptr }) rfl rfl (eb.ptr.adopt_blk _ _)
        (eb.ptr.adopt_units _ _))
      rwa [eset_same hAy] at this
    · obtain ⟨hb1, hu1⟩ := copyAssign_true hr
      exact .done (h.setE (hra.reblock hb1 (Nat.le_trans hra.fits (Nat.mul_le_mul_right _ hu1))))

theorem EOp.aspec_moveAssign {ps : List Param} {ew : EWorld} {A : Nat → Option AElem} {a b : Nat} {va : Elem} {y : AElem}
    (hab : a ≠ b) (hA : A a = some (.live va)) (hAy : A b = some y) :
    (stealsAssign ew a b = true → (EOp.moveAssign a b).aspec ps ew A = eset (eset A b (some (.live va))) a (some .moved)) ∧
    (stealsAssign ew a b = false → isFixedOrPlain ps = true → ∀ vb, y = .live vb →
      (EOp.moveAssign a b).aspec ps ew A = eset (eset A b (some (.live va))) a (some (.live (refAssign ps true va vb).1))) ∧
    (stealsAssign ew a b = false → isFixedOrPlain ps = false →
      (EOp.moveAssign a b).aspec ps ew A = eset (eset A b (some (.live va))) a (some (.live (movedValues ps va)))) := by
  refine ⟨fun hst => ?_, fun hst hfx vb hy => ?_, fun hst hfx => ?_⟩
  · simp only [EOp.aspec, if_neg hab, hA, hAy, hst, if_true]
  · simp only [EOp.aspec, if_neg hab, hA, hAy, hst, hfx, hy, if_true, Bool.false_eq_true, if_false]
  · simp only [EOp.aspec, if_neg hab, hA, hAy, hst, hfx, Bool.false_eq_true, if_false]

theorem elem_moveAssign_refines (ps : List Param) (ew : EWorld) (A : Nat → Option AElem) (h : EInv ps ew.elems A)
    (a b : Nat) (hpre : (EOp.moveAssign a b).Pre ps ew A) :
    (ew.elemMoveAssign ps a b).Reps ps A ((EOp.moveAssign a b).aspec ps ew A) := by
  by_cases hab : a = b
  · rw [show (EOp.moveAssign a b).aspec ps ew A = A from if_pos hab]
    exact (EWorld.binary_trivial (.inl hab) h.reps h).moveAssign ps
  · obtain ⟨va, hA, hAb, hfw⟩ := hpre.resolve_left hab
    obtain ⟨ea, hea, hra⟩ := h.get a hA
    obtain rfl : ea.val = va := hra.1
    obtain ⟨eb, y, heb, hAy, hrb⟩ := h.getSome b hAb
    obtain ⟨spec_steal, spec_fieldwise, spec_elementwise⟩ := EOp.aspec_moveAssign (ps := ps) (ew := ew) hab hA hAy
    have hsrc := hra.moved_source (movedValues_shape ps _ hra.len)
    refine EWorld.elemMoveAssign_cases hab hea heb ps
      (fun hst => ?_) (fun hst hfx => ?_) (fun _ _ _ _ => h) (fun hst hfx _ _ => ?_) (fun hst hfx hle => ?_)
    · rw [spec_steal hst]
      exact .done (h.setE2 (hra.reblock hra.blk hra.fits) (sy := .moved) ⟨rfl, rfl⟩)
    · obtain ⟨vb, hAb', hcnt⟩ := hfw hst hfx
      obtain rfl : y = .live vb := Option.some.inj (hAy.symm.trans hAb')
      obtain rfl : eb.val = vb := hrb.1
      rw [spec_fieldwise hst hfx _ rfl]
      refine .done (h.setE2 (hra.assigned hrb hcnt true ⟨rfl, rfl⟩) (hra.moved_source ?_))
      rw [refAssign_eq ps true _ _ hra.len hrb.len]
      exact zeroed_shape (·.ty.trivMoveAssign) ps _ hra.len
    · rw [spec_elementwise hst hfx]
      exact .done (h.setE2 (hra.reblock (Option.some_ne_none _) hra.fits) hsrc)
    · rw [spec_elementwise hst hfx]
      -- a moved-from target has no units, so the source's bytes would not fit
      have hbn : eb.ptr.blk ≠ none := by
        cases y with
        | live vb => exact hrb.blk
        | moved => rw [hrb.2, Nat.zero_mul] at hle; exact absurd hra.pos (Nat.not_lt.mpr hle)
      exact .done (h.setE2 (hra.reblock hbn hle) hsrc)

theorem elem_swap_refines (ps : List Param) (ew : EWorld) (A : Nat → Option AElem) (h : EInv ps ew.elems A)
    (a b : Nat) (hpre : (EOp.swap a b).Pre ps ew A) : (ew.elemSwap a b).Reps ps A ((EOp.swap a b).aspec ps ew A) := by
  by_cases hab : a = b
  · rw [show (EOp.swap a b).aspec ps ew A = A from if_pos hab]
    exact (EWorld.binary_trivial (.inl hab) h.reps h).swap
  · obtain ⟨hAa, hAb⟩ := hpre.resolve_left hab
    obtain ⟨ea, x, hea, hAx, hra⟩ := h.getSome a hAa
    obtain ⟨eb, y, heb, hAy, hrb⟩ := h.getSome b hAb
    rw [EWorld.elemSwap_some hab hea heb,
      show (EOp.swap a b).aspec ps ew A = eset (eset A a (some y)) b (some x) from (if_neg hab).trans (hAx ▸ hAy ▸ rfl)]
    have hs := swap_spec ew.w.acfg ea.ptr eb.ptr
    have hu := swap_units ew.w.acfg ea.ptr eb.ptr
    exact .done (h.setE2 (hrb.congr rfl rfl hs.1 hu.1) (hra.congr rfl rfl hs.2.1 hu.2))

theorem elem_destroy_refines (ps : List Param) (ew : EWorld) (A : Nat → Option AElem) (h : EInv ps ew.elems A) (k : Nat) :
    (ew.elemDestroy ps k).Reps ps A ((EOp.destroy k).aspec ps ew A) := by
  rw [EWorld.elemDestroy_eq]
  show EWorld.Reps ps A (eset A k none) _
  cases hk : ew.elems k with
  | none => rw [eset_same ((h.none_iff k).mp hk)]; exact h.reps
  | some e => exact h.set k none none trivial

/-- **one step**: whatever element operation is applied, and whether or not its allocation throws, the elements
    afterwards represent what the same operation yields on the abstract map — and a throwing operation has changed
    nothing -/
theorem EInv.step (ps : List Param) (hS : 0 < storageAl ps) (ew : EWorld) (A : Nat → Option AElem) (h : EInv ps ew.elems A)
    (op : EOp) (hpre : op.Pre ps ew A) (hprev : ew.w.threw = false) :
    EInv ps (op.apply ps ew).elems (if (op.apply ps ew).w.threw then A else op.aspec ps ew A) := by
  -- no case needs `hprev`: an operation that does nothing leaves `A` on both sides of the `if`
  cases op with
  | fromRef k s i al mv => exact elem_fromRef_refines ps hS ew A h k s i al mv hpre
  | copy a b => exact elem_copy_refines ps ew A h a b hpre
  | copyA a b al => exact elem_copyA_refines ps hS ew A h a b al hpre
  | move a b => exact elem_move_refines ps ew A h a b hpre
  | moveA a b al => exact elem_moveA_refines ps ew A h a b al hpre
  | assign a b => exact elem_assign_refines ps ew A h a b hpre
  | moveAssign a b => exact elem_moveAssign_refines ps ew A h a b hpre
  | swap a b => exact elem_swap_refines ps ew A h a b hpre
  | destroy k => exact elem_destroy_refines ps ew A h k

/-- the world after a history; the caller catches `bad_alloc` and goes on -/
def erun (ps : List Param) : EWorld → List EOp → EWorld
  | ew, [] => ew
  | ew, op :: ops => erun ps { (op.apply ps ew) with w := { (op.apply ps ew).w with threw := false } } ops

/-- the abstract map after the same history: a failed operation changes nothing -/
def earun (ps : List Param) : EWorld → (Nat → Option AElem) → List EOp → (Nat → Option AElem)
  | _, A, [] => A
  | ew, A, op :: ops =>
    earun ps { (op.apply ps ew) with w := { (op.apply ps ew).w with threw := false } }
      (if (op.apply ps ew).w.threw then A else op.aspec ps ew A) ops

def EValid (ps : List Param) : EWorld → (Nat → Option AElem) → List EOp → Prop
  | _, _, [] => True
  | ew, A, op :: ops => op.Pre ps ew A ∧
      EValid ps { (op.apply ps ew) with w := { (op.apply ps ew).w with threw := false } }
        (if (op.apply ps ew).w.threw then A else op.aspec ps ew A) ops

/-- **every history of element operations, allocation failures included** -/
theorem EInv.history (ps : List Param) (hS : 0 < storageAl ps) (ops : List EOp) :
    ∀ (ew : EWorld) (A : Nat → Option AElem), ew.w.threw = false → EInv ps ew.elems A → EValid ps ew A ops →
      EInv ps (erun ps ew ops).elems (earun ps ew A ops) := by
  induction ops with
  | nil => intro ew A _ h _; exact h
  | cons op ops ih =>
    intro ew A h0 h hv
    simp only [erun, earun]
    exact ih _ _ rfl (EInv.step ps hS ew A h op hv.1 h0) hv.2

end Cntgs
