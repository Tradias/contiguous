import Cntgs.Kernel
import Cntgs.Layout
import Cntgs.Vector
import Cntgs.Alloc
import Cntgs.World
import Cntgs.Compare
import Cntgs.Emplace
import Cntgs.RefIter
import Cntgs.Driver
import Cntgs.LayoutProofs
import Cntgs.Props.C03
import Cntgs.Props.C04
import Cntgs.Props.C05
import Cntgs.CompareProofs
import Cntgs.Props.C14
import Cntgs.Props.C13
import Cntgs.Props.C15
import Cntgs.RunsProofs
import Cntgs.RefProofs
import Cntgs.Props.C11
import Cntgs.Props.C12
import Cntgs.Matrix
import Cntgs.Props.C20
import Cntgs.Props.C19
import Cntgs.AllocProofs
import Cntgs.WorldCases
import Cntgs.Props.C07
import Cntgs.Props.C08
import Cntgs.Props.C17
import Cntgs.MemProofs
import Cntgs.VectorProofs
import Cntgs.SizeInv
import Cntgs.SizeProofs
import Cntgs.FixProofs
import Cntgs.VarRelocProofs
import Cntgs.Dec
import Cntgs.Props.C01
import Cntgs.Props.C02
import Cntgs.Props.C06
import Cntgs.Props.C09
import Cntgs.Props.C10
import Cntgs.Props.C16
import Cntgs.Props.C18
import Cntgs.FitProofs
import Cntgs.EqProofs
import Cntgs.FastPathProofs
import Cntgs.WorldProofs
import Cntgs.OwnProofs
import Cntgs.ElemProofs
import Cntgs.ElemOwnProofs
